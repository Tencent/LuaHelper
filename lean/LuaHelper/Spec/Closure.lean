/-
S-closure: the classes whose ---@field members a typed variable has: everything reachable from the
names of its type through class → parent and alias → aliased-name edges (C15).  `go` is a worklist
search with a visited list; it is total (terminates on every graph, cyclic ones included) because
each expansion visits a node of the finite node list that was not visited before.
`Reach` is the mathematical transitive closure; Props/C15 proves `closure` computes exactly it.
Core Lean only.
-/
namespace LuaHelper.Closure

abbrev Name := String
/-- declarations: (name, successors); a name may be declared several times (a class split across
    files): its successors are merged -/
abbrev Graph := List (Name × List Name)

def succs (g : Graph) (n : Name) : List Name := (g.filter (·.1 == n)).flatMap (·.2)
def nodesOf (g : Graph) : List Name := g.map (·.1)

def unvisited (nodes vis : List Name) : Nat := (nodes.filter fun n => !vis.contains n).length

theorem unvisited_lt (nodes vis : List Name) (n : Name) (hn : nodes.contains n = true) (hv : vis.contains n = false) :
    unvisited nodes (n :: vis) < unvisited nodes vis := by
  -- marking `n` removes exactly `n` from the unvisited nodes, and `n` was one of them
  have marked : nodes.filter (fun x => !(n :: vis).contains x) =
      (nodes.filter fun x => !vis.contains x).filter (fun x => !(x == n)) := by
    rw [List.filter_filter]
    exact List.filter_congr fun x _ => by rw [List.contains_cons, Bool.not_or]
  unfold unvisited
  rw [marked]
  refine Nat.lt_of_le_of_ne (List.length_filter_le ..) fun h => ?_
  have := List.length_filter_eq_length_iff.1 h n (List.mem_filter.2 ⟨List.contains_iff_mem.1 hn, congrArg (!·) hv⟩)
  simp at this

/-- worklist search: `work` = names still to look at, `vis` = nodes already collected -/
def go (g : Graph) (nodes : List Name) : List Name → List Name → List Name
  | [], vis => vis
  | n :: work, vis =>
    if h : vis.contains n = true ∨ nodes.contains n = false then go g nodes work vis
    else go g nodes (succs g n ++ work) (n :: vis)
termination_by work vis => (unvisited nodes vis, work.length)
decreasing_by
  · exact Prod.Lex.right _ (by simp)
  · apply Prod.Lex.left
    have h1 : vis.contains n = false := by
      cases hc : vis.contains n
      · rfl
      · exact absurd (Or.inl hc) h
    have h2 : nodes.contains n = true := by
      cases hc : nodes.contains n
      · exact absurd (Or.inr hc) h
      · rfl
    exact unvisited_lt nodes vis n h2 h1

/-- the declared names reachable from `roots` -/
def closure (g : Graph) (roots : List Name) : List Name := go g (nodesOf g) roots []

/-- reachability among declared names -/
inductive Reach (g : Graph) : Name → Name → Prop where
  | refl (a : Name) : (nodesOf g).contains a = true → Reach g a a
  | step (a b c : Name) : Reach g a b → c ∈ succs g b → (nodesOf g).contains c = true → Reach g a c

theorem Reach.head {g : Graph} {a b c : Name} (ha : (nodesOf g).contains a = true) (hab : b ∈ succs g a)
    (h : Reach g b c) : Reach g a c := by
  induction h with
  | refl hb => exact .step a a b (.refl a ha) hab hb
  | step b c _ hbc hc ih => exact .step a b c ih hbc hc

end LuaHelper.Closure
