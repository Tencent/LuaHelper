/-
Soundness of the generic recogniser of Spec/Grammar.lean: every end position it reports is reached by a
derivation (`Derives`) of the grammar expression from one of the start positions.  Used by Props/C03:
whatever the oracle accepts IS a valid chunk of the manual's grammar.
-/
import LuaHelper.Spec.Grammar
namespace LuaHelper.Grammar

/-- `g` derives the tokens of `inp` between some position of `starts` and position `j`: what is left of the input
    at the start is a derived string followed by what is left at `j` -/
def Reach (inp : List String) (g : G) (starts : List Nat) (j : Nat) : Prop :=
  ∃ i ∈ starts, ∃ w, Derives g w ∧ inp.drop i = w ++ inp.drop j

variable {inp : List String} {a b g g' : G} {starts mids : List Nat} {j : Nat}

theorem Reach.nil (h : Derives g []) (hj : j ∈ starts) : Reach inp g starts j := ⟨j, hj, [], h, rfl⟩

theorem Reach.mono (h : ∀ w, Derives g w → Derives g' w) : Reach inp g starts j → Reach inp g' starts j
  | ⟨i, hi, w, hd, e⟩ => ⟨i, hi, w, h w hd, e⟩

/-- two stretches one behind the other, for every rule that derives a concatenation (sequence, repetition) -/
theorem Reach.trans (h : ∀ u v, Derives a u → Derives b v → Derives g (u ++ v))
    (h1 : ∀ k ∈ mids, Reach inp a starts k) : Reach inp b mids j → Reach inp g starts j
  | ⟨k, hk, v, hv, ev⟩ =>
    let ⟨i, hi, u, hu, eu⟩ := h1 k hk
    ⟨i, hi, u ++ v, h u v hu hv, by rw [eu, ev, List.append_assoc]⟩

theorem star_snoc {sg : G} {u v : List String} (h1 : Derives sg u) (e : sg = .star g) (h2 : Derives g v) :
    Derives (.star g) (u ++ v) := by
  induction h1 <;> cases e
  case starNil => simpa using Derives.starCons g v [] h2 (.starNil g)
  case starCons x y hx _ _ ih => simpa using Derives.starCons g x (y ++ v) hx (ih rfl)

mutual
/-- grammar expressions without the oracle-only look-ahead `nla` -/
def okG : G → Bool
  | .nla _ => false
  | .seq l => okGs l
  | .alt l => okGs l
  | .star g => okG g
  | .opt g => okG g
  | _ => true
def okGs : List G → Bool
  | [] => true
  | g :: r => okG g && okGs r
end

theorem mem_insertPos (p q : Nat) (ps : List Nat) : q ∈ insertPos p ps ↔ q = p ∨ q ∈ ps := by
  unfold insertPos
  split
  next h => exact ⟨.inr, fun hq => hq.elim (· ▸ List.contains_iff_mem.mp h) id⟩
  next => exact List.mem_cons

theorem mem_unionPos (a b : List Nat) (q : Nat) : q ∈ unionPos a b ↔ q ∈ a ∨ q ∈ b := by
  unfold unionPos
  induction a generalizing b with
  | nil => simp
  | cons x r ih => simp only [List.foldl_cons, ih, mem_insertPos, List.mem_cons, or_assoc, or_left_comm]

theorem rules_ok : ∀ p ∈ rules, okG p.2 = true := by decide

theorem lookup_ok (name : String) : okG (lookup name) = true := by
  unfold lookup
  cases h : rules.find? (·.1 == name) with
  | none => rfl
  | some p => exact rules_ok p (List.mem_of_find?_eq_some h)

/-- the four mutually recursive recognisers are sound at every fuel -/
theorem recog_sound_all (inp : Array String) : ∀ fuel : Nat,
    (∀ g starts j, okG g = true → j ∈ recog lookup inp fuel g starts → Reach inp.toList g starts j) ∧
    (∀ gs starts j, okGs gs = true → j ∈ recogSeq lookup inp fuel gs starts → Reach inp.toList (.seq gs) starts j) ∧
    (∀ gs starts j, okGs gs = true → j ∈ recogAlt lookup inp fuel gs starts → Reach inp.toList (.alt gs) starts j) ∧
    (∀ g frontier acc rounds (starts0 : List Nat) j, okG g = true →
        (∀ p ∈ acc, Reach inp.toList (.star g) starts0 p) → (∀ p ∈ frontier, p ∈ acc) →
        j ∈ recogStar lookup inp fuel g frontier acc rounds → Reach inp.toList (.star g) starts0 j) := by
  intro fuel
  induction fuel with
  | zero =>
    refine ⟨?_, ?_, ?_, ?_⟩
    · intro g starts j _ h; simp [recog] at h
    · intro gs starts j _ h; simp [recogSeq] at h
    · intro gs starts j _ h; simp [recogAlt] at h
    · intro g frontier acc rounds starts0 j _ hacc _ h
      exact hacc j (by simpa only [recogStar] using h)
  | succ f ih =>
    obtain ⟨ihG, ihS, ihA, ihR⟩ := ih
    refine ⟨?_, ?_, ?_, ?_⟩
    · intro g starts j hok h
      unfold recog at h
      split at h
      · simp at h
      · cases g with
        | t s =>
          obtain ⟨i, hi, hh⟩ := List.mem_filterMap.mp h
          split at hh
          next heq =>
            cases hh
            obtain ⟨hlt, hs⟩ := Array.getElem?_eq_some_iff.mp (eq_of_beq heq)
            exact ⟨i, hi, [s], .tok s, by rw [List.drop_eq_getElem_cons hlt]; simp [hs]⟩
          next => cases hh
        | n name => exact (ihG _ starts j (lookup_ok name) h).mono (Derives.nt name)
        | seq gs => exact ihS gs starts j hok h
        | alt gs => exact ihA gs starts j hok h
        | opt g =>
          rcases (mem_unionPos _ _ j).mp h with h1 | h1
          · exact .nil (.optNone g) h1
          · exact (ihG g starts j hok h1).mono (Derives.optSome g)
        | nla s => cases hok
        | star g => exact ihR g starts starts _ starts j hok (fun p hp => .nil (.starNil g) hp) (fun p hp => hp) h
    · intro gs starts j hok h
      cases gs with
      | nil => exact .nil .seqNil (by simpa only [recogSeq] using h)
      | cons g r =>
        simp only [okGs, Bool.and_eq_true] at hok
        exact .trans (Derives.seqCons g r) (fun k => ihG g starts k hok.1) (ihS r _ j hok.2 h)
    · intro gs starts j hok h
      cases gs with
      | nil => simp [recogAlt] at h
      | cons g r =>
        simp only [okGs, Bool.and_eq_true] at hok
        rcases (mem_unionPos _ _ j).mp h with h1 | h1
        · exact (ihG g starts j hok.1 h1).mono (Derives.altHere g r)
        · exact (ihA r starts j hok.2 h1).mono (Derives.altThere g r)
    · intro g frontier acc rounds starts0 j hok hacc hsub h
      cases rounds with
      | zero => exact hacc j (by simpa only [recogStar] using h)
      | succ rounds =>
        simp only [recogStar] at h
        split at h
        · exact hacc j h
        · -- one more round: a new position is reached by `g` from a frontier position, which `star g` reaches
          refine ihR g _ _ rounds starts0 j hok (fun p hp => ?_) (fun p hp => (mem_unionPos _ _ p).mpr (.inl hp)) h
          rcases (mem_unionPos _ _ p).mp hp with h1 | h1
          · exact .trans (fun _ _ hu => star_snoc hu rfl) (fun k hk => hacc k (hsub k hk))
              (ihG g frontier p hok (List.mem_filter.mp h1).1)
          · exact hacc p h1

end LuaHelper.Grammar
