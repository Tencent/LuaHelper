/-
Helper lemmas for Props/C20: induction over the pairs `CompExp` equates; the decimal rendering of integers read
back (so "#int" + digits is an injective encoding of integer keys); the duplicate-key scan written without
accumulators; the key strings of the constant kinds.
-/
import LuaHelper.Model.Pat
import LuaHelper.Spec.Pat
namespace LuaHelper.Pat
open LuaHelper.Lex LuaHelper.Ast

/-- Induction over the pairs that `CompExp` equates: they are built by these rules and no others — the same
    constructor on both sides with any locations, equal integers / strings / names / operators / method names,
    float numerals of equal value, and equated sub-expressions. -/
theorem compExp_induct {P : Exp → Exp → Prop} {Ps : List Exp → List Exp → Prop}
    (nil : ∀ l l', P (.nil l) (.nil l')) (fls : ∀ l l', P (.fls l) (.fls l')) (tru : ∀ l l', P (.tru l) (.tru l'))
    (vararg : ∀ l l', P (.vararg l) (.vararg l'))
    (int : ∀ v l l', P (.int v l) (.int v l'))
    (flt : ∀ x y l l', fltEq x y = true → P (.flt x l) (.flt y l'))
    (str : ∀ s l l', P (.str s l) (.str s l')) (name : ∀ n l l', P (.name n l) (.name n l'))
    (parens : ∀ a b l l', P a b → P (.parens a l) (.parens b l'))
    (unop : ∀ o a b l l', P a b → P (.unop o a l) (.unop o b l'))
    (binop : ∀ o a1 a2 b1 b2 l l', P a1 b1 → P a2 b2 → P (.binop o a1 a2 l) (.binop o b1 b2 l'))
    (index : ∀ p1 k1 p2 k2 l l', P p1 p2 → P k1 k2 → P (.index p1 k1 l) (.index p2 k2 l'))
    (call : ∀ p1 m1 a1 p2 m2 a2 l l', m1.map (·.1) = m2.map (·.1) → P p1 p2 → Ps a1 a2 →
      P (.call p1 m1 a1 l) (.call p2 m2 a2 l'))
    (nils : Ps [] []) (cons : ∀ a r b s, P a b → Ps r s → Ps (a :: r) (b :: s)) :
    (∀ a b, compExp a b = true → P a b) ∧ (∀ as bs, compExps as bs = true → Ps as bs) := by
  refine compExp.mutual_induct_unfolding (fun a b r => r = true → P a b) (fun as bs r => r = true → Ps as bs)
    (fun l l' _ => nil l l') (fun l l' _ => fls l l') (fun l l' _ => tru l l') ?int (fun x l y l' h => flt x y l l' h)
    ?str (fun a l b l' ih h => parens a b l l' (ih h)) (fun l l' _ => vararg l l') ?name ?unop ?binop ?index ?call
    ?other (fun _ => nils) ?cons ?others
  case int => intro v l w l' h; cases eq_of_beq h; exact int v l l'
  case str => intro x l y l' h; cases eq_of_beq h; exact str x l l'
  case name => intro x l y l' h; cases eq_of_beq h; exact name x l l'
  case unop =>
    intro o a l o' b l' ih h
    rw [Bool.and_eq_true] at h
    cases eq_of_beq h.1
    exact unop o a b l l' (ih h.2)
  case binop =>
    intro o a1 a2 l o' b1 b2 l' ih1 ih2 h
    simp only [Bool.and_eq_true] at h
    cases eq_of_beq h.1.1
    exact binop o a1 a2 b1 b2 l l' (ih1 h.1.2) (ih2 h.2)
  case index =>
    intro p1 k1 l p2 k2 l' ih1 ih2 h
    rw [Bool.and_eq_true] at h
    exact index p1 k1 p2 k2 l l' (ih1 h.1) (ih2 h.2)
  case call =>
    intro p1 m1 a1 l p2 m2 a2 l' ih1 ih2 h
    simp only [Bool.and_eq_true] at h
    refine call p1 m1 a1 p2 m2 a2 l l' ?_ (ih1 h.1.1) (ih2 h.2)
    have hm := h.1.2
    rcases m1 with _ | ⟨n1, _⟩ <;> rcases m2 with _ | ⟨n2, _⟩
    · rfl
    · cases hm
    · cases hm
    · exact congrArg some (eq_of_beq hm)
  case cons => intro a r b s ih1 ih2 h; rw [Bool.and_eq_true] at h; exact cons a r b s (ih1 h.1) (ih2 h.2)
  case other => intros; contradiction
  case others => intros; contradiction

theorem digitsVal_snoc (acc : Nat) (ds : Bytes) (d : UInt8) :
    digitsVal acc (ds ++ [d]) = digitsVal acc ds * 10 + (d.toNat - 48) := by
  induction ds generalizing acc with
  | nil => rfl
  | cons b r ih => exact ih _

theorem digit_toNat {d : Nat} (h : d < 10) : (UInt8.ofNat (48 + d)).toNat = 48 + d := by
  rw [UInt8.toNat_ofNat']; omega

/-- reading the decimal rendering of a number gives the number back -/
theorem digitsVal_natBytes (n : Nat) : digitsVal 0 (natBytes n) = n := by
  fun_induction natBytes n with
  | case1 n h => show 0 * 10 + ((UInt8.ofNat (48 + n)).toNat - 48) = n; rw [digit_toNat h]; omega
  | case2 n h ih => rw [digitsVal_snoc, ih, digit_toNat (Nat.mod_lt _ (by decide))]; omega

theorem natBytes_inj (a b : Nat) (h : natBytes a = natBytes b) : a = b := by
  rw [← digitsVal_natBytes a, h, digitsVal_natBytes]

theorem natBytes_digits (n : Nat) : ∀ b ∈ natBytes n, 48 ≤ b.toNat ∧ b.toNat ≤ 57 := by
  fun_induction natBytes n with
  | case1 n h => intro b hb; rw [List.mem_singleton.1 hb, digit_toNat h]; omega
  | case2 n h ih =>
    intro b hb
    rcases List.mem_append.1 hb with hb | hb
    · exact ih b hb
    · rw [List.mem_singleton.1 hb, digit_toNat (Nat.mod_lt _ (by decide))]; omega

theorem natBytes_ne (c : UInt8) (hc : c.toNat < 48 ∨ 57 < c.toNat) (n : Nat) : ∀ b ∈ natBytes n, b ≠ c := by
  rintro b hb rfl
  have := natBytes_digits n b hb
  omega

theorem natBytes_ne_nil (n : Nat) : natBytes n ≠ [] := by
  rw [natBytes]; split <;> simp

theorem intStr_inj (a b : Int) (h : intStr a = intStr b) : a = b := by
  -- a rendering with a sign differs from one without in the first byte
  have sign (x y : Nat) (h : natBytes x = 45 :: natBytes y) : False :=
    natBytes_ne 45 (by decide) x 45 (h ▸ List.mem_cons_self) rfl
  cases a <;> cases b <;> simp only [intStr] at h
  · rw [natBytes_inj _ _ h]
  · exact (sign _ _ h).elim
  · exact (sign _ _ h.symm).elim
  · rw [Nat.succ_inj.1 (natBytes_inj _ _ (List.cons.inj h).2)]

/-- the duplicate-key scan without its accumulator -/
def dupFrom (parent : Loc) : List Exp → List Bytes → List Rep
  | [], _ => []
  | k :: r, seen =>
    match keyStr k parent with
    | none => dupFrom parent r seen
    | some (s, l) =>
      if seen.contains s then { ty := 5, loc := l, tag := s } :: dupFrom parent r seen else dupFrom parent r (s :: seen)

theorem dupKeys_go_eq (parent : Loc) : ∀ (ks : List Exp) (seen : List Bytes) (acc : List Rep),
    dupKeys.go parent ks seen acc = acc.reverse ++ dupFrom parent ks seen
  | [], seen, acc => (List.append_nil _).symm
  | k :: r, seen, acc => by
    unfold dupKeys.go dupFrom
    cases hk : keyStr k parent with
    | none => simp only; exact dupKeys_go_eq parent r seen acc
    | some v =>
      obtain ⟨s, l⟩ := v
      simp only
      by_cases hs : seen.contains s = true
      · simp only [hs, if_true]
        rw [dupKeys_go_eq parent r seen _]
        simp
      · simp only [hs]
        exact dupKeys_go_eq parent r (s :: seen) acc

theorem dupKeys_eq (keys : List Exp) (parent : Loc) : dupKeys keys parent = dupFrom parent keys [] :=
  dupKeys_go_eq parent keys [] []

/-- the scan depends on `seen` only through its members -/
theorem dupFrom_congr (parent : Loc) : ∀ (ks : List Exp) (seen seen' : List Bytes), (∀ s, s ∈ seen ↔ s ∈ seen') →
    dupFrom parent ks seen = dupFrom parent ks seen'
  | [], _, _, _ => rfl
  | k :: r, seen, seen', h => by
    have hc (s : Bytes) : seen.contains s = seen'.contains s := by
      rw [Bool.eq_iff_iff, List.contains_iff_mem, List.contains_iff_mem]; exact h s
    unfold dupFrom
    cases keyStr k parent with
    | none => exact dupFrom_congr parent r seen seen' h
    | some v =>
      simp only [hc, dupFrom_congr parent r seen seen' h,
        dupFrom_congr parent r (v.1 :: seen) (v.1 :: seen') fun t => by rw [List.mem_cons, List.mem_cons, h t]]

/-- so a constant key may be taken to join `seen` whether or not its key string is there already -/
theorem dupFrom_cons_some (parent : Loc) {k : Exp} {s : Bytes} {l : Loc} (hk : keyStr k parent = some (s, l))
    (r : List Exp) (seen : List Bytes) :
    dupFrom parent (k :: r) seen =
      (if s ∈ seen then [{ ty := 5, loc := l, tag := s }] else []) ++ dupFrom parent r (s :: seen) := by
  rw [dupFrom, hk]
  by_cases hs : s ∈ seen
  · have hmem (t : Bytes) : t ∈ seen ↔ t ∈ s :: seen :=
      ⟨List.mem_cons_of_mem s, fun ht => (List.mem_cons.1 ht).elim (· ▸ hs) id⟩
    simp only [List.contains_iff_mem, hs, if_true, dupFrom_congr parent r seen (s :: seen) hmem]
    rfl
  · simp only [List.contains_iff_mem, hs, if_false]
    rfl

theorem split_at_sep (c : UInt8) : ∀ (x x' y y' : Bytes), (∀ b ∈ x, b ≠ c) → (∀ b ∈ x', b ≠ c) →
    x ++ c :: y = x' ++ c :: y' → x = x' ∧ y = y'
  | [], [], y, y', _, _, h => ⟨rfl, (List.cons.inj h).2⟩
  | [], b :: x', y, y', _, hx', h => absurd (List.cons.inj h).1.symm (hx' b List.mem_cons_self)
  | a :: x, [], y, y', hx, _, h => absurd (List.cons.inj h).1 (hx a List.mem_cons_self)
  | a :: x, b :: x', y, y', hx, hx', h => by
    obtain ⟨rfl, ht⟩ := List.cons.inj h
    have := split_at_sep c x x' y y' (fun b hb => hx b (List.mem_cons_of_mem _ hb))
      (fun b hb => hx' b (List.mem_cons_of_mem _ hb)) ht
    exact ⟨congrArg (a :: ·) this.1, this.2⟩

theorem fltVal_den_pos (t : Bytes) : ∀ n d, fltVal t = some (n, d) → 0 < d := by
  -- on each of its paths `fltVal` gives nothing or a power of ten as the denominator
  fun_cases fltVal t
  all_goals intro n d h; cases h
  all_goals exact Nat.pow_pos (by decide)

/-- a fraction in lowest terms is determined by its value -/
theorem eq_of_coprime_cross {a b a' b' : Nat} (c : Nat.Coprime a b) (c' : Nat.Coprime a' b')
    (h : a * b' = a' * b) : a = a' ∧ b = b' := by
  have ea : a = a' := Nat.dvd_antisymm (c.dvd_of_dvd_mul_right ⟨b', h.symm⟩) (c'.dvd_of_dvd_mul_right ⟨b, h⟩)
  subst ea
  rcases Nat.eq_zero_or_pos a with rfl | ha
  · -- 0 / b in lowest terms is 0 / 1
    exact ⟨rfl, ((Nat.coprime_zero_left b).1 c).trans ((Nat.coprime_zero_left b').1 c').symm⟩
  · exact ⟨rfl, (Nat.eq_of_mul_eq_mul_left ha h).symm⟩

theorem reduced_eq_iff (n1 d1 n2 d2 : Nat) (h1 : 0 < d1) (h2 : 0 < d2) :
    (n1 / Nat.gcd n1 d1 = n2 / Nat.gcd n2 d2 ∧ d1 / Nat.gcd n1 d1 = d2 / Nat.gcd n2 d2) ↔ n1 * d2 = n2 * d1 := by
  have g1 : 0 < Nat.gcd n1 d1 := Nat.gcd_pos_of_pos_right _ h1
  have g2 : 0 < Nat.gcd n2 d2 := Nat.gcd_pos_of_pos_right _ h2
  -- n_i = a_i * G_i and d_i = b_i * G_i with a_i, b_i coprime
  obtain ⟨a, b, c1, en1, ed1⟩ := Nat.exists_coprime n1 d1
  obtain ⟨a', b', c2, en2, ed2⟩ := Nat.exists_coprime n2 d2
  generalize Nat.gcd n1 d1 = G1 at *
  generalize Nat.gcd n2 d2 = G2 at *
  subst en1 ed1 en2 ed2
  rw [Nat.mul_div_cancel _ g1, Nat.mul_div_cancel _ g1, Nat.mul_div_cancel _ g2, Nat.mul_div_cancel _ g2]
  have cross : a * G1 * (b' * G2) = a' * G2 * (b * G1) ↔ a * b' = a' * b := by
    rw [Nat.mul_mul_mul_comm, Nat.mul_mul_mul_comm a', Nat.mul_comm G2 G1]
    exact Nat.mul_left_inj (Nat.ne_of_gt (Nat.mul_pos g1 g2))
  rw [cross]
  exact ⟨fun ⟨ha, hb⟩ => by rw [ha, hb], eq_of_coprime_cross c1 c2⟩

theorem fltKey_eq_iff (a b : Bytes) : fltKey a = fltKey b ↔ fltEq a b = true := by
  -- a reduced fraction starts with a digit, the text of an unread numeral with '?'
  have hd (n : Nat) (r t : Bytes) (h : natBytes n ++ r = 63 :: t) : False := by
    cases hx : natBytes n with
    | nil => exact natBytes_ne_nil n hx
    | cons c cs =>
      rw [hx] at h
      exact natBytes_ne 63 (by decide) n c (hx ▸ List.mem_cons_self) (List.cons.inj h).1
  have unread {a b : Bytes} (ha : fltVal a = none) {v} (hb : fltVal b = some v) : (a == b) = false :=
    Bool.eq_false_iff.2 fun h => by rw [eq_of_beq h, hb] at ha; cases ha
  unfold fltKey fltEq
  cases ha : fltVal a with
  | none =>
    cases hb : fltVal b with
    | none => simp
    | some v => simpa [unread ha hb] using fun h => hd _ _ _ h.symm
  | some u =>
    cases hb : fltVal b with
    | none => simpa [Bool.beq_comm (a := a), unread hb ha] using hd _ _ _
    | some v =>
      obtain ⟨n1, d1⟩ := u
      obtain ⟨n2, d2⟩ := v
      simp only [beq_iff_eq]
      rw [← reduced_eq_iff n1 d1 n2 d2 (fltVal_den_pos a n1 d1 ha) (fltVal_den_pos b n2 d2 hb)]
      constructor
      · intro h
        have := split_at_sep 47 _ _ _ _ (natBytes_ne 47 (by decide) _) (natBytes_ne 47 (by decide) _) h
        exact ⟨natBytes_inj _ _ this.1, natBytes_inj _ _ this.2⟩
      · rintro ⟨h1, h2⟩
        rw [h1, h2]

theorem TK.all_get (k : TK) : TK.all[k.toNat]? = some k := by cases k <;> rfl
theorem TK.toNat_inj (a b : TK) (h : a.toNat = b.toNat) : a = b :=
  Option.some.inj (by rw [← TK.all_get a, h, TK.all_get b])

theorem keyStr_unop {o : TK} {e : Exp} {l p : Loc} {s : Bytes} {l' : Loc}
    (h : keyStr (.unop o e l) p = some (s, l')) :
    ∃ s' l'', keyStr e p = some (s', l'') ∧ s = opKeyPrefix ++ natBytes o.toNat ++ 58 :: s' := by
  rw [keyStr] at h
  cases hk : keyStr e p with
  | none => rw [hk] at h; cases h
  | some v => rw [hk] at h; cases h; exact ⟨v.1, v.2, rfl, rfl⟩

/-- The seven encodings are pairwise disjoint (they differ within their first three bytes) and each is injective up to
    what `CompExp` ignores: so two keys have the same key string exactly when `CompExp` equates them. -/
theorem keyStr_eq_iff (p : Loc) : (k1 k2 : Exp) → (s1 s2 : Bytes) → (l1 l2 : Loc) →
    keyStr k1 p = some (s1, l1) → keyStr k2 p = some (s2, l2) → (s1 = s2 ↔ compExp k1 k2 = true)
  | .unop o1 e1 lu, k2, s1, s2, l1, l2, h1, h2 => by
    obtain ⟨t1, m1, he1, rfl⟩ := keyStr_unop h1
    cases k2 with
    | unop o2 e2 lv =>
      obtain ⟨t2, m2, he2, rfl⟩ := keyStr_unop h2
      have ih := keyStr_eq_iff p e1 e2 t1 t2 m1 m2 he1 he2
      have nd := natBytes_ne 58 (by decide)
      simp only [compExp, Bool.and_eq_true, beq_iff_eq]
      constructor
      · intro h
        rw [List.append_assoc, List.append_assoc] at h
        have := split_at_sep 58 _ _ _ _ (nd _) (nd _) (List.append_cancel_left h)
        exact ⟨TK.toNat_inj _ _ (natBytes_inj _ _ this.1), ih.1 this.2⟩
      · rintro ⟨rfl, hc⟩
        rw [ih.2 hc]
    | _ => cases h2 <;> simp [opKeyPrefix, intKeyPrefix, trueKey, falseKey, fltKeyPrefix, compExp]
  | .int _ _, k2, s1, s2, l1, l2, h1, h2 | .str _ _, k2, s1, s2, l1, l2, h1, h2 | .name _ _, k2, s1, s2, l1, l2, h1, h2
  | .tru _, k2, s1, s2, l1, l2, h1, h2 | .fls _, k2, s1, s2, l1, l2, h1, h2 | .flt _ _, k2, s1, s2, l1, l2, h1, h2 => by
    have int_iff (a b : Int) : intStr a = intStr b ↔ a = b := ⟨intStr_inj a b, congrArg intStr⟩
    cases h1
    cases k2 with
    | unop o2 e2 lv =>
      obtain ⟨t2, m2, _, rfl⟩ := keyStr_unop h2
      simp [opKeyPrefix, intKeyPrefix, trueKey, falseKey, fltKeyPrefix, compExp]
    | _ =>
      -- another kind: `simp` sees the prefixes differ; the same kind: its payload is injective
      cases h2 <;> simp [intKeyPrefix, trueKey, falseKey, fltKeyPrefix, compExp, int_iff, fltKey_eq_iff]
  | .noKey, _, _, _, _, _, h1, _ | .nil _, _, _, _, _, _, h1, _ | .vararg _, _, _, _, _, _, h1, _
  | .binop _ _ _ _, _, _, _, _, _, h1, _ | .table _ _ _, _, _, _, _, _, h1, _ | .func _, _, _, _, _, _, h1, _
  | .parens _ _, _, _, _, _, _, h1, _ | .index _ _ _, _, _, _, _, _, h1, _ | .call _ _ _ _, _, _, _, _, _, h1, _
  | .bad _, _, _, _, _, _, h1, _ => by cases h1

theorem keyStr_isSome (p : Loc) : (k : Exp) → (keyStr k p).isSome = PatSpec.litKey k
  | .unop o e l => by
    rw [keyStr, PatSpec.litKey, ← keyStr_isSome p e]
    cases keyStr e p <;> rfl
  | .int _ _ | .str _ _ | .name _ _ | .tru _ | .fls _ | .flt _ _ | .noKey | .nil _ | .vararg _ | .binop _ _ _ _
  | .table _ _ _ | .func _ | .parens _ _ | .index _ _ _ | .call _ _ _ _ | .bad _ => rfl

theorem keyStr_loc (p : Loc) (k : Exp) (s : Bytes) (l : Loc) (h : keyStr k p = some (s, l)) : l = PatSpec.keyLoc k p := by
  cases k with
  | unop o e lu => obtain ⟨_, _, hk, _⟩ := keyStr_unop h; rw [keyStr, hk] at h; cases h; rfl
  | _ => cases h <;> rfl

theorem compExp_litKey (a b : Exp) : compExp a b = true → PatSpec.litKey b = true → PatSpec.litKey a = true := by
  refine (compExp_induct (P := fun a b => PatSpec.litKey b = true → PatSpec.litKey a = true) (Ps := fun _ _ => True)
    ?_ ?_ ?_ ?_ ?_ ?_ ?_ ?_ ?_ ?unop ?_ ?_ ?_ ?nils ?cons).1 a b
  case unop => exact fun _ _ _ _ _ ih => ih
  case nils | cons => intros; trivial
  -- in every other rule both sides are constant keys, or neither is
  all_goals intros; assumption

end LuaHelper.Pat
