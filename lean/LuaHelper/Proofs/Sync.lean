/-
Helper lemmas for C10: the invariant `Inv` of the dispatcher under one mutex (Model/Sync.lean) — the shared state and the
observations are those of the serial execution in lock-acquisition order, plus the steps the lock holder has taken so far.
`inv_exec` carries it over one scheduler pick, `inv_run` along a schedule.
-/
import LuaHelper.Model.Sync
namespace LuaHelper.Sync
variable {S O : Type}

theorem runSteps_append (a b : List (Step S O)) (s : S) (acc : List O) :
    runSteps (a ++ b) s acc = runSteps b (runSteps a s acc).1 (runSteps a s acc).2 := by
  induction a generalizing s acc with
  | nil => rfl
  | cons f r ih => exact ih ..

theorem serialRun_append (prog : Nat → List (Step S O)) (a b : List Nat) (s : S) (obs : Nat → List O) :
    serialRun prog (a ++ b) s obs = serialRun prog b (serialRun prog a s obs).1 (serialRun prog a s obs).2 := by
  induction a generalizing s obs with
  | nil => rfl
  | cons i r ih => exact ih ..

theorem upd_same {α : Type} (f : Nat → α) (i : Nat) (v : α) : upd f i v i = v := if_pos rfl
theorem upd_other {α : Type} (f : Nat → α) (i j : Nat) (v : α) (h : j ≠ i) : upd f i v j = f j := if_neg h
theorem upd_upd {α : Type} (f : Nat → α) (i : Nat) (v w : α) : upd (upd f i v) i w = upd f i w := by
  funext j
  by_cases h : j = i
  · rw [h, upd_same, upd_same]
  · rw [upd_other _ _ _ _ h, upd_other _ _ _ _ h, upd_other _ _ _ _ h]

/-- The invariant: the concurrent configuration is the serial execution, in acquisition order, of
    the finished handlers followed by the steps the lock holder has taken so far.  Which handlers
    are still `fresh` plays no part in it. -/
def Inv (prog : Nat → List (Step S O)) (s0 : S) (c : Cfg S O) : Prop :=
  let p := serialRun prog c.order s0 (fun _ => [])
  match c.cur with
  | none => (c.st, c.obs) = p
  | some (h, rem) => ∃ done, prog h = done ++ rem ∧
      let q := runSteps done p.1 []
      (c.st, c.obs) = (q.1, upd p.2 h q.2)

theorem exec_blocked (prog : Nat → List (Step S O)) (c : Cfg S O) (i h : Nat) (rem : List (Step S O))
    (hc : c.cur = some (h, rem)) (hne : i ≠ h) : exec prog c i = c := by
  simp [exec, hc, hne]

theorem exec_unlock (prog : Nat → List (Step S O)) (c : Cfg S O) (h : Nat)
    (hc : c.cur = some (h, [])) :
    exec prog c h = { c with cur := none, order := c.order ++ [h] } := by
  simp [exec, hc]

theorem exec_step (prog : Nat → List (Step S O)) (c : Cfg S O) (h : Nat) (f : Step S O)
    (r : List (Step S O)) (hc : c.cur = some (h, f :: r)) :
    exec prog c h = { c with st := (f c.st).1, obs := upd c.obs h (c.obs h ++ [(f c.st).2]),
                             cur := some (h, r) } := by
  simp [exec, hc]

theorem exec_acquire (prog : Nat → List (Step S O)) (c : Cfg S O) (i : Nat)
    (hc : c.cur = none) (hf : c.fresh i = true) :
    exec prog c i = { c with cur := some (i, prog i), fresh := upd c.fresh i false,
                             obs := upd c.obs i [] } := by
  simp [exec, hc, hf]

theorem exec_idle (prog : Nat → List (Step S O)) (c : Cfg S O) (i : Nat)
    (hc : c.cur = none) (hf : c.fresh i = false) : exec prog c i = c := by
  simp [exec, hc, hf]

theorem inv_exec (prog : Nat → List (Step S O)) (s0 : S) (c : Cfg S O) (i : Nat)
    (hinv : Inv prog s0 c) : Inv prog s0 (exec prog c i) := by
  cases hc : c.cur with
  | none =>
    simp only [Inv, hc] at hinv
    cases hf : c.fresh i with
    | false =>
      rw [exec_idle prog c i hc hf]
      simpa only [Inv, hc]
    | true =>
      rw [exec_acquire prog c i hc hf]
      exact ⟨[], rfl, hinv ▸ rfl⟩
  | some hr =>
    obtain ⟨h, rem⟩ := hr
    simp only [Inv, hc] at hinv
    obtain ⟨done, hprog, hst⟩ := hinv
    by_cases hih : i = h
    · subst hih
      cases rem with
      | nil =>
        -- Unlock: `done` is all of `prog i`, which is what `serialRun` runs for one more handler
        rw [exec_unlock prog c i hc]
        simp only [Inv, serialRun_append, serialRun]
        rw [hst, hprog, List.append_nil]
      | cons f r =>
        rw [exec_step prog c i f r hc]
        refine ⟨done ++ [f], hprog.trans (List.append_cons ..), ?_⟩
        simp only [Prod.mk.injEq] at hst
        simp only [hst, runSteps_append, runSteps, upd_same, upd_upd]
    · rw [exec_blocked prog c i h rem hc hih]
      simp only [Inv, hc]
      exact ⟨done, hprog, hst⟩

theorem inv_run (prog : Nat → List (Step S O)) (s0 : S) (n : Nat) (sched : List Nat) :
    Inv prog s0 (run prog s0 n sched) :=
  sched.foldlRecOn (exec prog) (motive := Inv prog s0) rfl fun c hc i _ => inv_exec prog s0 c i hc

end LuaHelper.Sync
