/- Helper lemmas for C02: the offset scans of M-text against S-lsp.  A document is `encode cs`; every function that reads
   it (`decode`, `skipLines`, `walk`) is first followed across the bytes of ONE spec character in front of arbitrary bytes
   (`decode_bytes`, `skipLines_bytes`, `walk_bytes`), then along the document by induction over `cs`. -/
import LuaHelper.Model.Text
import LuaHelper.Spec.Lsp
import LuaHelper.Proofs.Basic
namespace LuaHelper.TextProofs
open LuaHelper.Text LuaHelper.Lsp

/-- no `cr` directly followed by `lf` (that byte sequence *is* `crlf`) -/
def canon : List Ch → Prop
  | [] => True
  | [_] => True
  | x :: y :: r => ¬ (x = .cr ∧ y = .lf) ∧ canon (y :: r)

/-- continuation bytes of a multi-byte character are ≥ 0x80 (so never LF or CR) -/
def Ch.cont : Ch → Prop
  | .two _ b => 0x80 ≤ b
  | .three _ b c => 0x80 ≤ b ∧ 0x80 ≤ c
  | .four _ b c d => 0x80 ≤ b ∧ 0x80 ≤ c ∧ 0x80 ≤ d
  | _ => True

theorem canon_tail {x : Ch} {xs : List Ch} (h : canon (x :: xs)) : canon xs := by
  cases xs with
  | nil => trivial
  | cons y r => exact h.2

theorem encode_cons (x : Ch) (xs : List Ch) : encode (x :: xs) = x.bytes ++ encode xs :=
  List.flatMap_cons ..

theorem ne_eol_of_le {lo b : UInt8} (h : lo ≤ b) (hlo : 0x80 ≤ lo := by decide) : b ≠ 10 ∧ b ≠ 13 := by
  constructor <;> (rintro rfl; exact absurd (UInt8.le_trans hlo h) (by decide))

theorem lead_multi {lo a : UInt8} {k : Nat} (h : lo ≤ a) (hk : leadOnes a = k) (hlo : 0x80 ≤ lo := by decide) :
    a ≠ 10 ∧ a ≠ 13 ∧ stepLen a = k ∧ unitsOf a = if k = 4 then 2 else 1 := by
  have h127 : a > 127 := gt_127_iff.2 (Byte.not_lt_threshold h hlo)
  refine ⟨(ne_eol_of_le h hlo).1, (ne_eol_of_le h hlo).2, ?_, ?_⟩
  · rw [stepLen, if_pos h127, hk]
  · simp only [unitsOf, h127, hk, true_and]

/-- The walk looks only at the first byte of a character: it is no line end, and `stepLen` and `unitsOf` of it are the
    character's length in bytes and in UTF-16 units. -/
theorem lead_byte {x : Ch} (hwf : x.wf) (hx : x.isEol = false) : ∃ a tl, x.bytes = a :: tl ∧
    a ≠ 10 ∧ a ≠ 13 ∧ stepLen a = tl.length + 1 ∧ unitsOf a = x.units := by
  cases x with
  | ascii b =>
    have h : ¬ b > 127 := fun h => gt_127_iff.1 h hwf.1
    exact ⟨b, [], rfl, hwf.2.1, hwf.2.2, by rw [stepLen, if_neg h]; rfl,
      by simp only [unitsOf, h, false_and, if_false]; rfl⟩
  | two a b =>
    have h := hwf.1
    have hk : leadOnes a = 2 := by
      rw [leadOnes, if_neg (Byte.not_lt_threshold h), if_neg (Byte.not_lt_threshold h), if_pos hwf.2]
    -- `lead_multi` with k = 2: `[b].length + 1` and `if 2 = 4 then 2 else 1` evaluate to `k` and to `x.units`
    exact ⟨a, [b], rfl, lead_multi h hk⟩
  | three a b c =>
    have h := hwf.1
    have hk : leadOnes a = 3 := by
      rw [leadOnes, if_neg (Byte.not_lt_threshold h), if_neg (Byte.not_lt_threshold h), if_neg (Byte.not_lt_threshold h), if_pos hwf.2]
    exact ⟨a, [b, c], rfl, lead_multi h hk⟩
  | four a b c d =>
    have h := hwf.1
    have hk : leadOnes a = 4 := by
      rw [leadOnes, if_neg (Byte.not_lt_threshold h), if_neg (Byte.not_lt_threshold h), if_neg (Byte.not_lt_threshold h),
        if_neg (Byte.not_lt_threshold h), if_pos hwf.2]
    exact ⟨a, [b, c, d], rfl, lead_multi h hk⟩
  | lf | crlf | cr => cases hx

theorem head_ne_lf {x : Ch} (hwf : x.wf) (hx : x ≠ .lf) (r : Bytes) : (x.bytes ++ r).head? ≠ some 10 := by
  cases x with
  | lf => exact absurd rfl hx
  | crlf | cr => simp [Ch.bytes]
  | _ =>
    obtain ⟨a, tl, hb, h10, -⟩ := lead_byte hwf rfl
    rw [hb]
    simpa using h10

/-- the line skipping goes byte by byte, so here the continuation bytes matter -/
theorem bytes_ne_eol {x : Ch} (hwf : x.wf) (hco : Ch.cont x) (hx : x.isEol = false) :
    ∀ b ∈ x.bytes, b ≠ 10 ∧ b ≠ 13 := by
  cases x with
  | ascii b => simpa [Ch.bytes] using hwf.2
  | two a b => simpa [Ch.bytes] using ⟨ne_eol_of_le hwf.1, ne_eol_of_le hco⟩
  | three a b c => simpa [Ch.bytes] using ⟨ne_eol_of_le hwf.1, ne_eol_of_le hco.1, ne_eol_of_le hco.2⟩
  | four a b c d =>
    simpa [Ch.bytes] using ⟨ne_eol_of_le hwf.1, ne_eol_of_le hco.1, ne_eol_of_le hco.2.1, ne_eol_of_le hco.2.2⟩
  | lf | crlf | cr => cases hx

/-- `decode` on a byte that is neither LF nor CR: the last alternative of its `match` -/
theorem decode_cons {a : UInt8} (h : a ≠ 10 ∧ a ≠ 13) (r : Bytes) : decode (a :: r) =
    if a < 0x80 then .ascii a :: decode r
    else if 0xC0 ≤ a ∧ a < 0xE0 then
      match _hr : r with
      | b :: r' => .two a b :: decode r'
      | _ => .ascii a :: decode r
    else if 0xE0 ≤ a ∧ a < 0xF0 then
      match _hr : r with
      | b :: c :: r' => .three a b c :: decode r'
      | _ => .ascii a :: decode r
    else if 0xF0 ≤ a ∧ a < 0xF8 then
      match _hr : r with
      | b :: c :: d :: r' => .four a b c d :: decode r'
      | _ => .ascii a :: decode r
    else .ascii a :: decode r := by
  rw [decode.eq_def]
  split <;> rename_i heq <;> cases heq
  · exact absurd rfl h.2
  · exact absurd rfl h.2
  · exact absurd rfl h.1
  · rfl

/-- `decode` reads back one encoded character; a `cr` only if the next byte does not make it a CR LF -/
theorem decode_bytes {x : Ch} (hwf : x.wf) {r : Bytes} (hcr : x = .cr → r.head? ≠ some 10) :
    decode (x.bytes ++ r) = x :: decode r := by
  cases x with
  | lf => show decode (10 :: r) = _; rw [decode]
  | crlf => show decode (13 :: 10 :: r) = _; rw [decode]
  | cr =>
    show decode (13 :: r) = _
    rw [decode]
    exact fun r' h => hcr rfl (h ▸ rfl)
  | ascii b => exact (decode_cons hwf.2 r).trans (if_pos hwf.1)
  | two a b =>
    obtain ⟨h1, h2⟩ := hwf
    show decode (a :: b :: r) = _
    rw [decode_cons (ne_eol_of_le h1), if_neg (Byte.not_lt_threshold h1), if_pos ⟨h1, h2⟩]
  | three a b c =>
    obtain ⟨h1, h2⟩ := hwf
    show decode (a :: b :: c :: r) = _
    rw [decode_cons (ne_eol_of_le h1), if_neg (Byte.not_lt_threshold h1), if_neg (mt And.right (Byte.not_lt_threshold h1)),
      if_pos ⟨h1, h2⟩]
  | four a b c d =>
    obtain ⟨h1, h2⟩ := hwf
    show decode (a :: b :: c :: d :: r) = _
    rw [decode_cons (ne_eol_of_le h1), if_neg (Byte.not_lt_threshold h1), if_neg (mt And.right (Byte.not_lt_threshold h1)),
      if_neg (mt And.right (Byte.not_lt_threshold h1)), if_pos ⟨h1, h2⟩]

theorem skipLines_append {bs : Bytes} (h : ∀ b ∈ bs, b ≠ 10 ∧ b ≠ 13) (r : Bytes) (l off : Nat) :
    skipLines (bs ++ r) (l + 1) off = skipLines r (l + 1) (off + bs.length) := by
  induction bs generalizing off with
  | nil => rfl
  | cons b bs ih =>
    obtain ⟨⟨h10, h13⟩, h⟩ := List.forall_mem_cons.1 h
    rw [List.cons_append, skipLines, if_neg h10, if_neg h13, ih h, List.length_cons, Nat.add_right_comm]; rfl

/-- the line skipping consumes one character, under the same condition on a `cr` -/
theorem skipLines_bytes {x : Ch} (hwf : x.wf) (hco : Ch.cont x) {r : Bytes} (hcr : x = .cr → r.head? ≠ some 10)
    (l off : Nat) : skipLines (x.bytes ++ r) (l + 1) off =
      skipLines r (if x.isEol then l else l + 1) (off + x.bytes.length) := by
  cases x with
  | lf | crlf => simp [Ch.bytes, Ch.isEol, skipLines]
  | cr => simp [Ch.bytes, Ch.isEol, skipLines, hcr rfl]
  | _ => exact skipLines_append (bytes_ne_eol hwf hco rfl) r l off

theorem walk_zero (r : Bytes) (off : Nat) : walk r 0 off = off := by
  cases r <;> rw [walk]

/-- the walk consumes one character, by the tests of `specOffsetCh` on line 0 -/
theorem walk_bytes {x : Ch} (hwf : x.wf) (r : Bytes) (c off : Nat) : walk (x.bytes ++ r) c off =
    if x.isEol then off else if c = 0 then off else if c < x.units then off
    else walk r (c - x.units) (off + x.bytes.length) := by
  cases c with
  | zero => simp [walk_zero]
  | succ rem =>
    cases x with
    | lf | crlf | cr => simp [Ch.bytes, Ch.isEol, walk]
    | _ =>
      obtain ⟨a, tl, hb, h10, h13, hs, hu⟩ := lead_byte hwf rfl
      rw [hb, List.cons_append, walk, if_neg (not_or.2 ⟨h10, h13⟩), hs, hu, Nat.add_sub_cancel, List.drop_left]
      -- the first two tests on the right evaluate: `x` is no line end and `rem + 1 ≠ 0`
      rfl

theorem head_encode_ne_lf {x : Ch} {xs : List Ch} (hwf : ∀ y ∈ xs, y.wf) (hca : canon (x :: xs)) (hx : x = .cr) :
    (encode xs).head? ≠ some 10 := by
  cases xs with
  | nil => simp [encode]
  | cons y r => exact head_ne_lf (hwf y (List.mem_cons_self ..)) (fun hy => hca.1 ⟨hx, hy⟩) _

theorem decode_encode (cs : List Ch) (hwf : ∀ x ∈ cs, x.wf) (hc : canon cs) : decode (encode cs) = cs := by
  induction cs with
  | nil => simp [encode, decode]
  | cons x xs ih =>
    obtain ⟨hx, hwf⟩ := List.forall_mem_cons.1 hwf
    rw [encode_cons, decode_bytes hx (head_encode_ne_lf hwf hc), ih hwf (canon_tail hc)]

theorem specOffset_encode (cs : List Ch) (hwf : ∀ x ∈ cs, x.wf) (hc : canon cs) (p : Pos) :
    specOffset (encode cs) p = specOffsetCh cs p.line p.ch 0 := by
  rw [specOffset, decode_encode cs hwf hc]

theorem spec_bounds {cs : List Ch} {l c off e : Nat} (h : specOffsetCh cs l c off = some e) :
    off ≤ e ∧ e ≤ off + (encode cs).length := by
  fun_induction specOffsetCh cs l c off
  -- `case2`: the document ends above line `l` (no offset); `case6`–`case8`: the three recursive calls; else `e = off`
  case case2 => cases h
  case case6 ih | case7 ih | case8 ih =>
    rw [encode_cons, List.length_append]
    have := ih h
    omega
  all_goals (cases h; omega)

/-- along one line the walk is the spec: it stops at the line end (clamp), before a character that needs more
    units than are left, and otherwise after exactly `c` UTF-16 units -/
theorem walk_encode {cs : List Ch} (hwf : ∀ x ∈ cs, x.wf) (c off : Nat) :
    some (walk (encode cs) c off) = specOffsetCh cs 0 c off := by
  induction cs generalizing c off with
  | nil => simp [specOffsetCh, encode, walk]
  | cons x xs ih =>
    obtain ⟨hx, hwf⟩ := List.forall_mem_cons.1 hwf
    rw [specOffsetCh, ← ih hwf, encode_cons, walk_bytes hx]
    simp only [apply_ite some]

/-- **the two loops of `OffsetForPosition` are the LSP mapping**: skipping `l` lines of an encoded document and then
    walking `c` UTF-16 units ends where the specification says, counting from any `off` -/
theorem scan_encode {cs : List Ch} (hwf : ∀ x ∈ cs, x.wf) (hco : ∀ x ∈ cs, Ch.cont x) (hca : canon cs)
    (l c off : Nat) :
    (skipLines (encode cs) l off).map (fun ro => walk ro.1 c ro.2) = specOffsetCh cs l c off := by
  induction cs generalizing l off with
  | nil => cases l <;> simp [encode, skipLines, specOffsetCh, walk]
  | cons x xs ih =>
    cases l with
    | zero => rw [skipLines]; exact walk_encode hwf c off
    | succ l =>
      obtain ⟨hx, hwf⟩ := List.forall_mem_cons.1 hwf
      obtain ⟨hcx, hco⟩ := List.forall_mem_cons.1 hco
      rw [encode_cons, skipLines_bytes hx hcx (head_encode_ne_lf hwf hca), specOffsetCh]
      split <;> exact ih hwf hco (canon_tail hca) ..

/-- **position → offset is the LSP mapping**, for every well-formed document and EVERY position -/
theorem position_spec (cs : List Ch) (hwf : ∀ x ∈ cs, x.wf) (hco : ∀ x ∈ cs, Ch.cont x) (hca : canon cs) (p : Pos) :
    offsetForPosition (encode cs) p = specOffsetCh cs p.line p.ch 0 := by
  have h := scan_encode hwf hco hca p.line p.ch 0
  rw [offsetForPosition]
  cases hs : skipLines (encode cs) p.line 0 with
  | none => rwa [hs] at h
  | some ro =>
    -- the final clamp to the document length does nothing: the spec's offset is inside the document
    rw [hs, Option.map_some] at h
    have := (spec_bounds h.symm).2
    rw [← h]
    exact congrArg some (Nat.min_eq_left (by omega))

end LuaHelper.TextProofs
