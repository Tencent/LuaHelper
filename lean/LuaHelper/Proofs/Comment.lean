/-
Lemmas about the comment-map model (Model/Comment.lean): blocks of short head comments are runs of
consecutive lines, nothing is lost, and the runs are maximal.
-/
import LuaHelper.Model.Comment
namespace LuaHelper.Comment
open LuaHelper.Lex

/-- consecutive line numbers -/
def Consec : List Nat → Prop
  | [] => True
  | [_] => True
  | a :: b :: r => b = a + 1 ∧ Consec (b :: r)

theorem consec_eq_range (t : List Nat) (h : Nat) (hc : Consec (h :: t)) :
    h :: t = List.range' h (t.length + 1) := by
  induction t generalizing h with
  | nil => rfl
  | cons b r ih =>
    obtain ⟨rfl, hr⟩ := hc
    exact congrArg (h :: ·) (ih (h + 1) hr)

/-- a run of consecutive lines contains every line between two of its members -/
theorem consec_between (l : List Nat) (hc : Consec l) (a b x : Nat) (ha : a ∈ l) (hb : b ∈ l)
    (h1 : a ≤ x) (h2 : x ≤ b) : x ∈ l := by
  cases l with
  | nil => cases ha
  | cons h t =>
    rw [consec_eq_range t h hc, List.mem_range'_1] at ha hb ⊢
    exact ⟨Nat.le_trans ha.1 h1, Nat.lt_of_le_of_lt h2 hb.2⟩

theorem consec_snoc (l : List Nat) (last : Nat) (hc : Consec l) (h : l.getLast? = some last) :
    Consec (l ++ [last + 1]) := by
  fun_induction Consec l with
  | case1 => cases h
  | case2 a => cases h; exact ⟨rfl, trivial⟩
  | case3 a b r ih => exact ⟨hc.1, ih hc.2 (List.getLast?_cons_cons ▸ h)⟩

def lineNos (ci : CInfo) : List Nat := ci.lines.map Prod.fst

def firstLine (ci : CInfo) : Option Nat := (lineNos ci).head?

/-- no block starts on the line directly after the key of the block before it -/
def Maximal : List (Nat × CInfo) → Prop
  | [] => True
  | [_] => True
  | e1 :: e2 :: r => firstLine e2.2 ≠ some (e1.1 + 1) ∧ Maximal (e2 :: r)

theorem maximal_cons (e1 : Nat × CInfo) (l : List (Nat × CInfo)) :
    Maximal (e1 :: l) ↔ (∀ e2 ∈ l.head?, firstLine e2.2 ≠ some (e1.1 + 1)) ∧ Maximal l := by
  cases l <;> simp [Maximal]

/-- what every emitted entry satisfies -/
structure Block (e : Nat × CInfo) : Prop where
  short : e.2.short = true
  head : e.2.head = true
  consec : Consec (lineNos e.2)
  key : (lineNos e.2).getLast? = some e.1

theorem fresh_short_head (prevEnd : Nat) (c : CLine) (hs : c.short = true) (hh : c.line ≠ prevEnd) :
    fresh prevEnd c = ⟨true, true, [(c.endLine, c.text)]⟩ := by
  simp [fresh, hs, Ne.symm hh]

theorem block_fresh (prevEnd : Nat) (c : CLine) (hs : c.short = true) (hh : c.line ≠ prevEnd) :
    Block (c.endLine, fresh prevEnd c) :=
  fresh_short_head prevEnd c hs hh ▸ ⟨rfl, rfl, trivial, rfl⟩

theorem extend_short (ci : CInfo) (c : CLine) (hs : c.short = true) :
    extend ci c = { ci with lines := ci.lines ++ [(c.endLine, c.text)] } := if_pos hs

/-- between short comments only a jump in the line numbers closes the block -/
theorem breaks_short (ci : CInfo) (last : Nat) (c : CLine) (hci : ci.short = true) (hs : c.short = true) :
    breaks ci last c = true ↔ c.endLine ≠ last + 1 := by
  simp [breaks, hci, hs]

theorem block_extend (ci : CInfo) (last : Nat) (c : CLine) (h : Block (last, ci)) (hs : c.short = true)
    (he : c.endLine = last + 1) : Block (c.endLine, extend ci c) := by
  rw [extend_short ci c hs, he]
  have hl : lineNos { ci with lines := ci.lines ++ [(last + 1, c.text)] } = lineNos ci ++ [last + 1] := List.map_append
  exact ⟨h.short, h.head, hl ▸ consec_snoc _ last h.consec h.key, hl ▸ List.getLast?_concat⟩

/-- the scan of short head comments, the current block `ci` under the last line seen being a `Block` already:
    every emitted entry is a block, the entries concatenated are the current block followed by the remaining
    comments, no entry continues the one before it, and the first entry starts with the current block (which is
    what makes the entry emitted before it maximal) -/
theorem go_spec (prevEnd : Nat) (cs : List CLine) (ci : CInfo) (last : Nat) (h : Block (last, ci))
    (hs : ∀ c ∈ cs, c.short = true) (hh : ∀ c ∈ cs, c.line ≠ prevEnd) :
    (∀ e ∈ go prevEnd (some ci) last cs, Block e) ∧
    (go prevEnd (some ci) last cs).flatMap (fun e => e.2.lines) = ci.lines ++ cs.map (fun c => (c.endLine, c.text)) ∧
    Maximal (go prevEnd (some ci) last cs) ∧
    ∀ e ∈ (go prevEnd (some ci) last cs).head?, ci.lines <+: e.2.lines := by
  induction cs generalizing ci last with
  | nil =>
    rw [go]
    exact ⟨List.forall_mem_singleton.mpr h, by simp, trivial, by simp⟩
  | cons c cs ih =>
    obtain ⟨hsc, hs'⟩ := List.forall_mem_cons.mp hs
    obtain ⟨hhc, hh'⟩ := List.forall_mem_cons.mp hh
    have hbr := breaks_short ci last c h.short hsc
    by_cases hb : breaks ci last c = true
    · obtain ⟨i1, i2, i3, i4⟩ := ih (fresh prevEnd c) c.endLine (block_fresh prevEnd c hsc hhc) hs' hh'
      have hf := fresh_short_head prevEnd c hsc hhc
      rw [go, if_pos hb]
      refine ⟨List.forall_mem_cons.mpr ⟨h, i1⟩, ?_, (maximal_cons _ _).mpr ⟨fun e he => ?_, i3⟩, by simp⟩
      · rw [List.flatMap_cons, i2, hf]; rfl
      · obtain ⟨suf, hsuf⟩ := i4 e he
        rw [firstLine, lineNos, ← hsuf, hf]
        exact fun h => hbr.mp hb (Option.some.inj h)
    · have he : c.endLine = last + 1 := Decidable.not_not.mp (mt hbr.mpr hb)
      obtain ⟨i1, i2, i3, i4⟩ := ih (extend ci c) c.endLine (block_extend ci last c h hsc he) hs' hh'
      have hl : (extend ci c).lines = ci.lines ++ [(c.endLine, c.text)] := by rw [extend_short ci c hsc]
      rw [go, if_neg hb]
      rw [hl] at i2 i4
      exact ⟨i1, by rw [i2]; simp, i3, fun e he => (List.prefix_append _ _).trans (i4 e he)⟩

end LuaHelper.Comment
