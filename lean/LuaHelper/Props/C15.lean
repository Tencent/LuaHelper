/-
C15 — "Annotated types give a variable exactly its declared and inherited members".

The member set of a typed variable is the union of the ---@field lists of the classes reachable from
the names of its type through class → parent and alias → aliased-name edges.  Proved here, for EVERY
declaration graph (multiple inheritance, diamonds, cycles, aliases of aliases, names declared several
times, undeclared names):
 * `closure` is a total function — it terminates on cyclic graphs (its definition carries the
   termination proof: every expansion visits a not-yet-visited node of the finite node list);
 * `closure_sound`    : every collected name is reachable from a root;
 * `closure_complete` : every declared name reachable from a declared root is collected
so members are neither invented nor lost.  The executable `closure` is what the harness compares
with the real server's member completion / member go-to-definition on generated hierarchies.
-/
import LuaHelper.Spec.Closure
import LuaHelper.Gen.Shapes
namespace LuaHelper.C15
open LuaHelper.Closure

/-- the real collector (getClassTypeInfoList), as it stands in /repo now: in both look-up branches a
    declaration is marked visited BEFORE its parents and its alias target are expanded — the order that
    makes the recursion stop on cycles (`go` marks `n :: vis` before visiting `succs g n`) -/
theorem collector_marks_before_expanding :
    Gen.closureOrder = ["mark", "parents", "alias", "mark", "parents", "alias"] := rfl
#print axioms collector_marks_before_expanding

/-- the invariant that makes the result closed under successors -/
theorem go_closed (g : Graph) (nodes work vis : List Name) :
    (∀ x ∈ vis, x ∈ go g nodes work vis) ∧
    (∀ w ∈ work, nodes.contains w = true → w ∈ go g nodes work vis) ∧
    (∀ x ∈ go g nodes work vis, x ∉ vis → ∀ c ∈ succs g x, nodes.contains c = true → c ∈ go g nodes work vis) := by
  fun_induction go g nodes work vis with
  | case1 vis => exact ⟨fun _ hx => hx, fun _ => nofun, fun x hx hxv => absurd hx hxv⟩
  | case2 n work vis h ih =>
    obtain ⟨i1, i2, i3⟩ := ih
    refine ⟨i1, fun w hw hwn => ?_, i3⟩
    rcases List.mem_cons.1 hw with rfl | e
    · -- `w` is declared, so it was skipped because it had been visited
      exact i1 w (List.contains_iff_mem.1 (h.resolve_right (by simpa using hwn)))
    · exact i2 w e hwn
  | case3 n work vis h ih =>
    obtain ⟨i1, i2, i3⟩ := ih
    refine ⟨fun x hx => i1 x (List.mem_cons_of_mem n hx), fun w hw hwn => ?_, fun x hx hxv c hc hcn => ?_⟩
    · rcases List.mem_cons.1 hw with rfl | e
      · exact i1 w List.mem_cons_self
      · exact i2 w (List.mem_append_right _ e) hwn
    · by_cases e : x = n
      · exact i2 c (List.mem_append_left _ (e ▸ hc)) hcn
      · exact i3 x hx (fun hx' => (List.mem_cons.1 hx').elim e hxv) c hc hcn

/-- everything collected was reachable from the work list (or already visited) -/
theorem go_sound (g : Graph) (work vis : List Name) :
    ∀ x ∈ go g (nodesOf g) work vis, x ∈ vis ∨ ∃ w ∈ work, Reach g w x := by
  fun_induction go g (nodesOf g) work vis with
  | case1 vis => exact fun x hx => .inl hx
  | case2 n work vis h ih =>
    exact fun x hx => (ih x hx).imp_right fun ⟨w, hw, hr⟩ => ⟨w, List.mem_cons_of_mem n hw, hr⟩
  | case3 n work vis h ih =>
    intro x hx
    have hn : (nodesOf g).contains n = true := by simpa using (not_or.1 h).2
    rcases ih x hx with h1 | ⟨w, hw, hr⟩
    · rcases List.mem_cons.1 h1 with rfl | e
      · exact .inr ⟨x, List.mem_cons_self, .refl x hn⟩
      · exact .inl e
    · rcases List.mem_append.1 hw with hs | hwk
      · exact .inr ⟨n, List.mem_cons_self, hr.head hn hs⟩
      · exact .inr ⟨w, List.mem_cons_of_mem n hwk, hr⟩

theorem closure_sound (g : Graph) (roots : List Name) :
    ∀ x ∈ closure g roots, ∃ r ∈ roots, Reach g r x :=
  fun x hx => (go_sound g roots [] x hx).resolve_left List.not_mem_nil
#print axioms closure_sound

theorem closure_complete (g : Graph) (roots : List Name) (r x : Name) (hr : r ∈ roots)
    (h : Reach g r x) : x ∈ closure g roots := by
  obtain ⟨_, i2, i3⟩ := go_closed g (nodesOf g) roots []
  induction h with
  | refl hn => exact i2 r hr hn
  | step b c _ hbc hcn ih => exact i3 b ih List.not_mem_nil c hbc hcn
#print axioms closure_complete

/-- exactly the reachable declared names -/
theorem closure_exact (g : Graph) (roots : List Name) (x : Name) :
    x ∈ closure g roots ↔ ∃ r ∈ roots, Reach g r x :=
  ⟨closure_sound g roots x, fun ⟨r, hr, h⟩ => closure_complete g roots r x hr h⟩
#print axioms closure_exact

/-- a diamond with a cycle and an alias chain: D : B, C;  B : A;  C : A;  A : D (cycle);  T = alias of U, U = alias of D -/
example :
    closure [("D", ["B", "C"]), ("B", ["A"]), ("C", ["A"]), ("A", ["D"]), ("T", ["U"]), ("U", ["D"]), ("Z", [])] ["T"] =
      ["C", "A", "B", "D", "U", "T"] := by
  simp [closure, go, succs, nodesOf]

end LuaHelper.C15
