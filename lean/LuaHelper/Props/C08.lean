/-
C08 — "After any edit / file-event history, diagnostics equal those of a fresh start".

Model: Model/Diag.lean — the publish / clear bookkeeping of diagnostics_manager.go under the handler
sequences of textdocument_file_request.go; the analysis result of every event is an input.  The
harness feeds the model the error maps the real server computed (read through a verif hook) and
compares the model's client view with the folded stream of real publishDiagnostics notifications;
separately it compares that view with a freshly started server.

What the client is to hold for a file (`view`): the syntax errors of its unsaved buffer when that has
any; the saved diagnostics without the syntax errors while an unsaved buffer parses cleanly; else the
saved diagnostics, i.e. what a freshly started server publishes (`shown`).

Proved here, for ALL states, files, error maps and ALL histories:
 * `history_consistent`: along every history of didOpen / didChange / didSave / didClose /
   didChangeWatchedFiles events (didOpen only for a document that is not open), whatever error maps the
   analyses deliver, the client holds exactly `view` for EVERY file after EVERY event — also for files
   with unsaved edits while other files are saved or change on disk (that was finding K1, repaired:
   `dirty_view_kept`, and `dirty_view_overridden_before` for the code as it was);
 * `fresh_when_settled`: once no buffer is unsaved, that is the view of a freshly started server
   (`init_settled`);  `closed_is_clean`: didClose leaves no unsaved entry, so a conformant client's
   didOpen meets the premise of `history_consistent` (`conformant_history_consistent`);
 * `sameErrs_eq` / `faithful`: IsSameErrList is exact since it also compares related information and
   the entry file (repair of finding K2; `extra_republished` / `stale_extra_before`);
 * `handler_call_shape` / `manager_shape`: the call sequences and map updates the model is written
   after are the ones in /repo now (regenerated on every run).
-/
import LuaHelper.Model.Diag
import LuaHelper.Gen.Shapes
import LuaHelper.Proofs.Basic
namespace LuaHelper.C08
open LuaHelper.Diag

/-- the handler sequences the model's `ev*` functions are written after, as they stand in /repo now
    (regenerated on every run): which bookkeeping methods each document / file handler calls, in order.
    didClose restores the saved diagnostics with SaveOneFilePushAgain (repair aa13bc7); didOpen treats a text
    that differs from the file like an unsaved edit (repair ce0b3a3, `evOpenWith`); didChangeWatchedFiles no
    longer drops the unsaved-error entries of the announced files (repair of K1). -/
theorem handler_call_shape :
    Gen.bookkeepingCalls =
      [("TextDocumentDidOpen", ["pushAllDiagnosticsAgain", "InsertChangeFileErr", "ClearFileSyntaxErr", "ClearChangeFileErr"]),
       ("TextDocumentDidChange", ["InsertChangeFileErr", "ClearChangeFileErr", "ClearFileSyntaxErr"]),
       ("WorkspaceChangeWatchedFiles", ["pushAllDiagnosticsAgain"]),
       ("TextDocumentDidClose", ["SaveOneFilePushAgain", "ClearOneFileDiagnostic", "RemoveFile"]),
       ("TextDocumentDidSave", ["SaveOneFilePushAgain", "pushAllDiagnosticsAgain", "SaveOneFilePushAgain"])] := rfl
#print axioms handler_call_shape

/-- the bookkeeping methods themselves, as they stand in /repo now: the updates of the three maps and the calls,
    each with its if/for nesting depth (0 = unconditional).  `pushAllDiagnosticsAgain` ends with an UNCONDITIONAL
    `pushAllChangeFileDiagnosticErr` (`Diag.pushAll`), whose two loops are `rechangeStep` and `rehideStep`;
    InsertChangeFileErr / SaveOneFilePushAgain / ClearFileSyntaxErr maintain `fileHideSyntaxMap` (`hidden`). -/
theorem manager_shape :
    Gen.managerOps =
      [("pushAllDiagnosticsAgain", ["call:getAllProject@0", "call:ClearOneFileDiagnostic@2", "call:pushFileErrList@2",
          "call:pushFileErrList@1", "assign:fileErrorMap@0", "call:pushAllChangeFileDiagnosticErr@0"]),
       ("pushAllChangeFileDiagnosticErr", ["call:ClearOneFileDiagnostic@1", "call:pushFileChangeDiagnostic@1",
          "call:ClearOneFileDiagnostic@1", "call:pushFileDiagnostic@1"]),
       ("InsertChangeFileErr", ["set:fileChangeErrorMap@0", "del:fileHideSyntaxMap@0", "call:pushFileChangeDiagnostic@0"]),
       ("ClearChangeFileErr", ["del:fileChangeErrorMap@1", "call:ClearOneFileDiagnostic@1", "call:pushFileDiagnostic@1"]),
       ("SaveOneFilePushAgain", ["del:fileChangeErrorMap@0", "del:fileHideSyntaxMap@0", "call:pushFileDiagnostic@1",
          "call:ClearOneFileDiagnostic@1"]),
       ("ClearFileSyntaxErr", ["set:fileHideSyntaxMap@0", "call:ClearOneFileDiagnostic@0", "call:pushFileDiagnostic@0"])] := rfl
#print axioms manager_shape

theorem lk_cons (p : File × List Err) (m : EMap) (f : File) :
    lk (p :: m) f = if p.1 == f then some p.2 else lk m f := by
  unfold lk
  rw [List.find?_cons]
  cases p.1 == f <;> rfl

theorem lk_del (m : EMap) (f g : File) : lk (del m f) g = if g == f then none else lk m g := by
  -- searching what a filter keeps is searching with both tests
  rw [lk, del, List.find?_filter]
  by_cases h : g = f
  · rw [h, if_pos (beq_self_eq_true f), List.find?_eq_none.2 fun a _ => by simp]
    rfl
  · rw [if_neg (mt eq_of_beq h), lk]
    exact congrArg _ (Lists.find_congr fun a _ => by by_cases ha : a.1 = g <;> simp [ha, h])

theorem lk_del_self (m : EMap) (f : File) : lk (del m f) f = none :=
  (lk_del m f f).trans (if_pos (beq_self_eq_true f))

theorem lk_del_ne {f g : File} (h : g ≠ f) (m : EMap) : lk (del m f) g = lk m g :=
  (lk_del m f g).trans (if_neg (mt eq_of_beq h))

theorem lk_ins (m : EMap) (f g : File) (e : List Err) : lk (ins m f e) g = if g == f then some e else lk m g := by
  rw [ins, lk_cons, lk_del, BEq.comm]
  cases g == f <;> rfl

theorem lk_ins_self (m : EMap) (f : File) (e : List Err) : lk (ins m f e) f = some e :=
  (lk_ins m f f e).trans (if_pos (beq_self_eq_true f))

theorem lk_ins_ne {f g : File} (h : g ≠ f) (m : EMap) (e : List Err) : lk (ins m f e) g = lk m g :=
  (lk_ins m f g e).trans (if_neg (mt eq_of_beq h))

def hasKey (m : EMap) (f : File) : Bool := m.any (·.1 == f)

theorem hasKey_cons (p : File × List Err) (m : EMap) (f : File) : hasKey (p :: m) f = (p.1 == f || hasKey m f) := rfl

theorem hasKey_eq_isSome (m : EMap) (f : File) : hasKey m f = (lk m f).isSome :=
  Bool.eq_iff_iff.mpr (by rw [hasKey, lk, List.any_eq_true, Option.isSome_map, List.find?_isSome])

theorem lk_none_iff (m : EMap) (f : File) : lk m f = none ↔ hasKey m f = false := by
  rw [hasKey_eq_isSome]
  cases lk m f <;> simp

theorem hasKey_del (m : EMap) (f g : File) : hasKey (del m f) g = (g != f && hasKey m g) := by
  rw [hasKey_eq_isSome, hasKey_eq_isSome, lk_del, bne]
  cases g == f <;> rfl

theorem hasKey_iff_mem (m : EMap) (f : File) : hasKey m f = true ↔ f ∈ m.map (·.1) := by
  simp only [hasKey, List.any_eq_true, List.mem_map, beq_iff_eq]

def NodupKeys (m : EMap) : Prop := (m.map (·.1)).Nodup

theorem nodup_tail (p : File × List Err) (r : EMap) (h : NodupKeys (p :: r)) :
    NodupKeys r ∧ hasKey r p.1 = false :=
  have ⟨h1, h2⟩ := List.nodup_cons.mp h
  ⟨h2, Bool.eq_false_iff.mpr fun hk => h1 ((hasKey_iff_mem r p.1).mp hk)⟩

theorem nodup_del (m : EMap) (f : File) (h : NodupKeys m) : NodupKeys (del m f) :=
  List.Nodup.sublist (List.Sublist.map _ List.filter_sublist) h

theorem nodup_ins (m : EMap) (f : File) (e : List Err) (h : NodupKeys m) : NodupKeys (ins m f e) :=
  List.nodup_cons.mpr
    ⟨fun hmem => Bool.eq_false_iff.mp ((lk_none_iff _ f).mp (lk_del_self m f)) ((hasKey_iff_mem _ f).mpr hmem),
     nodup_del m f h⟩

theorem mem_filter_ne (l : List File) (f g : File) : g ∈ l.filter (· != f) ↔ g ∈ l ∧ g ≠ f := by
  simp [List.mem_filter]

theorem mem_filter_of_ne {f g : File} (h : g ≠ f) (l : List File) : g ∈ l.filter (· != f) ↔ g ∈ l :=
  (mem_filter_ne l f g).trans (and_iff_left h)

theorem publish_client (s : St) (f g : File) (e : List Err) :
    (publish s f e).client g = if g == f then e else s.client g := rfl
theorem publish_saved (s : St) (f : File) (e : List Err) : (publish s f e).saved = s.saved := rfl
theorem publish_change (s : St) (f : File) (e : List Err) : (publish s f e).change = s.change := rfl
theorem publish_hidden (s : St) (f : File) (e : List Err) : (publish s f e).hidden = s.hidden := rfl

theorem publish_client_self (s : St) (f : File) (e : List Err) : (publish s f e).client f = e :=
  if_pos (beq_self_eq_true f)

theorem publish_client_ne {f g : File} (h : g ≠ f) (s : St) (e : List Err) : (publish s f e).client g = s.client g :=
  if_neg (mt eq_of_beq h)

theorem publish_publish (s : St) (f : File) (a b : List Err) : publish (publish s f a) f b = publish s f b := by
  unfold publish
  congr 1
  funext g
  dsimp only
  split <;> rfl

theorem clearStep_fields (new : EMap) (s : St) (p : File × List Err) :
    (clearStep new s p).saved = s.saved ∧ (clearStep new s p).change = s.change ∧ (clearStep new s p).hidden = s.hidden := by
  -- with `publish` unfolded the projections reduce at once; otherwise `rfl` first tries to identify the two states
  unfold clearStep publish
  split <;> exact ⟨rfl, rfl, rfl⟩

theorem pushStep_fields (old : EMap) (s : St) (p : File × List Err) :
    (pushStep old s p).saved = s.saved ∧ (pushStep old s p).change = s.change ∧ (pushStep old s p).hidden = s.hidden := by
  unfold pushStep publish
  split
  · exact ⟨rfl, rfl, rfl⟩
  · split <;> exact ⟨rfl, rfl, rfl⟩

theorem clearStep_client (new : EMap) (s : St) (p : File × List Err) (f : File) :
    (clearStep new s p).client f = if (p.1 == f && (lk new p.1).isNone) then [] else s.client f := by
  unfold clearStep
  cases (lk new p.1).isNone
  · rw [Bool.and_false]; rfl
  · rw [Bool.and_true, BEq.comm]; rfl

theorem pushStep_client_ne (old : EMap) (s : St) (p : File × List Err) (f : File) (h : p.1 ≠ f) :
    (pushStep old s p).client f = s.client f := by
  unfold pushStep
  split
  · exact publish_client_ne h.symm ..
  · split
    · rfl
    · exact publish_client_ne h.symm ..

theorem pushStep_client_eq (old : EMap) (s : St) (p : File × List Err) :
    (pushStep old s p).client p.1 =
      (match lk old p.1 with
       | none => p.2
       | some o => if sameErrs o p.2 then s.client p.1 else p.2) := by
  unfold pushStep
  cases lk old p.1 with
  | none => exact publish_client_self ..
  | some o =>
    dsimp only
    split
    · rfl
    · exact publish_client_self ..

theorem foldl_fields {α : Type} {step : St → α → St}
    (h : ∀ s a, (step s a).saved = s.saved ∧ (step s a).change = s.change ∧ (step s a).hidden = s.hidden)
    (l : List α) (s : St) :
    (l.foldl step s).saved = s.saved ∧ (l.foldl step s).change = s.change ∧ (l.foldl step s).hidden = s.hidden := by
  induction l generalizing s with
  | nil => exact ⟨rfl, rfl, rfl⟩
  | cons a r ih =>
    obtain ⟨h1, h2, h3⟩ := ih (step s a)
    obtain ⟨k1, k2, k3⟩ := h s a
    exact ⟨h1.trans k1, h2.trans k2, h3.trans k3⟩

theorem clear_fold_fields (new l : EMap) (s : St) :
    (l.foldl (clearStep new) s).saved = s.saved ∧ (l.foldl (clearStep new) s).change = s.change ∧
    (l.foldl (clearStep new) s).hidden = s.hidden :=
  foldl_fields (clearStep_fields new) l s

theorem push_fold_fields (old l : EMap) (s : St) :
    (l.foldl (pushStep old) s).saved = s.saved ∧ (l.foldl (pushStep old) s).change = s.change ∧
    (l.foldl (pushStep old) s).hidden = s.hidden :=
  foldl_fields (pushStep_fields old) l s

theorem clear_fold_client (new l : EMap) (s : St) (f : File) :
    (l.foldl (clearStep new) s).client f = if (hasKey l f && (lk new f).isNone) then [] else s.client f := by
  induction l generalizing s with
  | nil => rfl
  | cons p r ih =>
    rw [List.foldl_cons, ih, clearStep_client, hasKey_cons]
    cases h : p.1 == f
    · cases hasKey r f <;> cases (lk new f).isNone <;> rfl
    · cases eq_of_beq h
      cases hasKey r p.1 <;> cases (lk new p.1).isNone <;> rfl

theorem push_fold_client (old l : EMap) (hn : NodupKeys l) (s : St) (f : File) :
    (l.foldl (pushStep old) s).client f =
      (match lk l f with
       | none => s.client f
       | some e => (match lk old f with
          | none => e
          | some o => if sameErrs o e then s.client f else e)) := by
  induction l generalizing s with
  | nil => rfl
  | cons p r ih =>
    obtain ⟨hr, hp⟩ := nodup_tail p r hn
    rw [List.foldl_cons, ih hr, lk_cons]
    by_cases h : p.1 = f
    · subst h
      rw [(lk_none_iff r p.1).mpr hp, if_pos (beq_self_eq_true p.1)]
      exact pushStep_client_eq old s p
    · rw [if_neg (mt eq_of_beq h), pushStep_client_ne old s p f h]

/-- lists that look the same to IsSameErrList are the same (it failed for IsSameErrList as it was, `sameErrsOld`,
    when only related information differed: `stale_extra_before`) -/
def Faithful (old new : EMap) : Prop :=
  ∀ f o e, lk old f = some o → lk new f = some e → sameErrs o e = true → o = e

/-- IsSameErrList is exact (since the repair of finding K2): lists it calls the same are the same -/
theorem sameErrs_eq (a b : List Err) (h : sameErrs a b = true) : a = b :=
  -- the triple it compares is the whole record
  (List.map_inj_right fun x y hxy => by cases x; cases y; cases hxy; rfl).mp (eq_of_beq h)
#print axioms sameErrs_eq

theorem sameErrs_refl (a : List Err) : sameErrs a a = true := beq_self_eq_true _

/-- hence every pair of error maps is faithful; where the comparison loops skip a list (`pushCore_client`) they use
    `sameErrs_eq` directly -/
theorem faithful (old new : EMap) : Faithful old new := fun _ o e _ _ h => sameErrs_eq o e h
#print axioms faithful

theorem nonSyntax_nil : nonSyntax [] = [] := rfl

theorem shown_eq (m : EMap) (f : File) : shown m f = (match lk m f with | some e => e | none => []) := by
  unfold shown; cases lk m f <;> rfl

/-- what the client is to hold for a file: the syntax errors of its unsaved buffer when that has any; the saved
    diagnostics without the syntax errors while an unsaved buffer parses cleanly; else the saved diagnostics —
    what a freshly started server publishes -/
def view (s : St) (f : File) : List Err :=
  match lk s.change f with
  | some e => e
  | none => if f ∈ s.hidden then nonSyntax (shown s.saved f) else shown s.saved f

theorem view_of_some {s : St} {f : File} {e : List Err} (h : lk s.change f = some e) : view s f = e := by
  unfold view; rw [h]

theorem view_of_hidden {s : St} {f : File} (h : lk s.change f = none) (hm : f ∈ s.hidden) :
    view s f = nonSyntax (shown s.saved f) := by
  unfold view; rw [h]; exact if_pos hm

theorem view_of_clean {s : St} {f : File} (h : lk s.change f = none) (hm : f ∉ s.hidden) :
    view s f = shown s.saved f := by
  unfold view; rw [h]; exact if_neg hm

def Consistent (s : St) : Prop := ∀ f, s.client f = view s f

/-- `t` differs from `s` only in what concerns file `f` -/
def Frame (f : File) (s t : St) : Prop :=
  ∀ g, g ≠ f → t.client g = s.client g ∧ lk t.change g = lk s.change g ∧ (g ∈ t.hidden ↔ g ∈ s.hidden) ∧
    lk t.saved g = lk s.saved g

theorem Frame.refl (f : File) (s : St) : Frame f s s := fun _ _ => ⟨rfl, rfl, Iff.rfl, rfl⟩

theorem Frame.trans {f : File} {s t u : St} (h1 : Frame f s t) (h2 : Frame f t u) : Frame f s u := by
  intro g hg
  obtain ⟨a1, a2, a3, a4⟩ := h1 g hg
  obtain ⟨b1, b2, b3, b4⟩ := h2 g hg
  exact ⟨b1.trans a1, b2.trans a2, b3.trans a3, b4.trans a4⟩

theorem view_frame {f : File} {s t : St} (h : Frame f s t) (g : File) (hg : g ≠ f) : view t g = view s g := by
  obtain ⟨_, h2, h3, h4⟩ := h g hg
  simp only [view, shown, h2, h3, h4]

theorem consistent_of_frame {f : File} {s t : St} (hs : Consistent s) (hfr : Frame f s t)
    (hf : t.client f = view t f) : Consistent t := by
  intro g
  by_cases hg : g = f
  · subst hg; exact hf
  · rw [(hfr g hg).1, hs g, view_frame hfr g hg]

theorem pushFile_spec (s : St) (f : File) (b : Bool) :
    (pushFile s f b).saved = s.saved ∧ (pushFile s f b).change = s.change ∧ (pushFile s f b).hidden = s.hidden ∧
    (∀ g, g ≠ f → (pushFile s f b).client g = s.client g) ∧
    (pushFile s f b).client f = (match lk s.saved f with
      | none => s.client f
      | some e => if b then nonSyntax e else e) := by
  unfold pushFile publish
  cases lk s.saved f with
  | none => exact ⟨rfl, rfl, rfl, fun _ _ => rfl, rfl⟩
  | some e => exact ⟨rfl, rfl, rfl, fun g hg => publish_client_ne hg .., publish_client_self ..⟩

/-- ClearOneFileDiagnostic followed by pushFileDiagnostic without the syntax errors: what the client is left with is
    one publish of the saved list without its syntax errors -/
theorem pushFile_publish_nil (s : St) (f : File) :
    pushFile (publish s f []) f true = publish s f (nonSyntax (shown s.saved f)) := by
  unfold pushFile shown
  rw [publish_saved]
  cases lk s.saved f with
  | none => rfl
  | some e => exact publish_publish ..

theorem insertChange_spec (s : St) (f : File) (e : List Err) :
    Frame f s (insertChange s f e) ∧ (insertChange s f e).change = ins s.change f e ∧
    (insertChange s f e).client f = e :=
  ⟨fun _ hg => ⟨publish_client_ne hg .., lk_ins_ne hg .., mem_filter_of_ne hg _, rfl⟩, rfl, publish_client_self ..⟩

theorem clearChange_of_none {s : St} {f : File} (h : lk s.change f = none) : clearChange s f = s := by
  unfold clearChange; rw [h]

theorem clearChange_spec (s : St) (f : File) :
    Frame f s (clearChange s f) ∧ (clearChange s f).saved = s.saved ∧ (clearChange s f).hidden = s.hidden ∧
    lk (clearChange s f).change f = none ∧
    ((clearChange s f).change = s.change ∨ (clearChange s f).change = del s.change f) ∧
    (clearChange s f).client f = (if (lk s.change f).isSome then nonSyntax (shown s.saved f) else s.client f) := by
  unfold clearChange
  cases h : lk s.change f with
  | none => exact ⟨Frame.refl f s, rfl, rfl, h, Or.inl rfl, rfl⟩
  | some c =>
    rw [pushFile_publish_nil]
    exact ⟨fun _ hg => ⟨publish_client_ne hg .., lk_del_ne hg _, Iff.rfl, rfl⟩, rfl, rfl, lk_del_self ..,
      Or.inr rfl, publish_client_self ..⟩

theorem clearSyntax_spec (s : St) (f : File) :
    Frame f s (clearSyntax s f) ∧ (clearSyntax s f).saved = s.saved ∧ (clearSyntax s f).change = s.change ∧
    f ∈ (clearSyntax s f).hidden ∧
    (clearSyntax s f).client f = (match lk s.saved f with
      | none => s.client f
      | some e => nonSyntax e) := by
  have hh : ∀ g, g ≠ f → (g ∈ f :: s.hidden.filter (· != f) ↔ g ∈ s.hidden) := fun g hg =>
    List.mem_cons.trans ((or_iff_right hg).trans (mem_filter_of_ne hg _))
  unfold clearSyntax
  dsimp only
  cases h : lk s.saved f with
  | none => exact ⟨fun g hg => ⟨rfl, rfl, hh g hg, rfl⟩, rfl, rfl, List.mem_cons_self, rfl⟩
  | some e =>
    rw [pushFile_publish_nil]
    exact ⟨fun g hg => ⟨publish_client_ne hg .., rfl, hh g hg, rfl⟩, rfl, rfl, List.mem_cons_self,
      (publish_client_self ..).trans (by rw [shown, h]; rfl)⟩

/-- SaveOneFilePushAgain: the file's unsaved entries go and the client gets its saved list, empty or not -/
theorem saveOne_eq (s : St) (f : File) :
    saveOne s f =
      publish { s with change := del s.change f, hidden := s.hidden.filter (· != f) } f (shown s.saved f) := by
  unfold saveOne shown pushFile
  simp only
  cases lk s.saved f <;> rfl

theorem saveOne_spec (s : St) (f : File) :
    Frame f s (saveOne s f) ∧ (saveOne s f).saved = s.saved ∧ (saveOne s f).change = del s.change f ∧
    (saveOne s f).hidden = s.hidden.filter (· != f) ∧ (saveOne s f).client f = shown s.saved f := by
  rw [saveOne_eq]
  exact ⟨fun _ hg => ⟨publish_client_ne hg .., lk_del_ne hg _, mem_filter_of_ne hg _, rfl⟩, rfl, rfl, rfl,
    publish_client_self ..⟩

theorem saveOne_clean (s : St) (f : File) : lk (saveOne s f).change f = none ∧ f ∉ (saveOne s f).hidden := by
  rw [saveOne_eq]
  exact ⟨lk_del_self .., fun h => ((mem_filter_ne ..).mp h).2 rfl⟩

/-- the first loop of pushAllChangeFileDiagnosticErr clears before it publishes, which the client cannot tell from
    publishing alone: it is the comparison loop run against an empty old map -/
theorem rechangeStep_eq : rechangeStep = pushStep [] :=
  funext fun _ => funext fun _ => publish_publish ..

theorem rechange_fold_spec (l : EMap) (t : St) (hn : NodupKeys l) :
    (l.foldl rechangeStep t).saved = t.saved ∧ (l.foldl rechangeStep t).change = t.change ∧
    (l.foldl rechangeStep t).hidden = t.hidden ∧
    ∀ f, (l.foldl rechangeStep t).client f = (match lk l f with | some e => e | none => t.client f) := by
  rw [rechangeStep_eq]
  obtain ⟨h1, h2, h3⟩ := push_fold_fields [] l t
  refine ⟨h1, h2, h3, fun f => ?_⟩
  rw [push_fold_client [] l hn]
  cases lk l f <;> rfl

theorem rehideStep_spec (t : St) (g : File) :
    (rehideStep t g).saved = t.saved ∧ (rehideStep t g).change = t.change ∧ (rehideStep t g).hidden = t.hidden ∧
    ∀ f, (rehideStep t g).client f =
      (if f = g ∧ lk t.change g = none then nonSyntax (shown t.saved g) else t.client f) := by
  unfold rehideStep
  rw [pushFile_publish_nil]
  cases lk t.change g <;> exact ⟨rfl, rfl, rfl, fun f => by simp [publish_client]⟩

theorem rehide_fold_spec (l : List File) (t : St) :
    (l.foldl rehideStep t).saved = t.saved ∧ (l.foldl rehideStep t).change = t.change ∧
    (l.foldl rehideStep t).hidden = t.hidden ∧
    ∀ f, (l.foldl rehideStep t).client f =
      (if f ∈ l ∧ lk t.change f = none then nonSyntax (shown t.saved f) else t.client f) := by
  induction l generalizing t with
  | nil => exact ⟨rfl, rfl, rfl, fun f => by simp⟩
  | cons g r ih =>
    obtain ⟨a1, a2, a3, a4⟩ := ih (rehideStep t g)
    obtain ⟨q1, q2, q3, q4⟩ := rehideStep_spec t g
    refine ⟨a1.trans q1, a2.trans q2, a3.trans q3, fun f => ?_⟩
    rw [List.foldl_cons, a4 f, q1, q2, q4 f]
    by_cases hg : f = g
    · subst hg
      by_cases hc : lk t.change f = none <;> simp [hc]
    · simp [hg]

/-- the state after the two comparison loops of pushAllDiagnosticsAgain -/
def pushCore (s : St) (new : EMap) : St :=
  { (new.foldl (pushStep s.saved) (s.saved.foldl (clearStep new) s)) with saved := new }

theorem pushCore_fields (s : St) (new : EMap) :
    (pushCore s new).saved = new ∧ (pushCore s new).change = s.change ∧ (pushCore s new).hidden = s.hidden :=
  ⟨rfl, (push_fold_fields ..).2.1.trans (clear_fold_fields ..).2.1, (push_fold_fields ..).2.2.trans (clear_fold_fields ..).2.2⟩

/-- a file whose client view was the fresh view of the old map shows the fresh view of the new map after the
    comparison loops (lists IsSameErrList calls the same ARE the same: `sameErrs_eq`) -/
theorem pushCore_client (s : St) (new : EMap) (hn : NodupKeys new) (f : File)
    (hc : s.client f = shown s.saved f) : (pushCore s new).client f = shown new f := by
  show (new.foldl (pushStep s.saved) (s.saved.foldl (clearStep new) s)).client f = shown new f
  rw [push_fold_client s.saved new hn, clear_fold_client, hasKey_eq_isSome, hc]
  unfold shown
  cases lk new f with
  | none => cases lk s.saved f <;> rfl
  | some e =>
    cases lk s.saved f with
    | none => rfl
    | some o => exact ite_eq_right_iff.mpr (sameErrs_eq o e)

theorem pushAll_eq (s : St) (new : EMap) :
    pushAll s new =
      ((pushCore s new).change.foldl rechangeStep (pushCore s new)).hidden.foldl rehideStep
        ((pushCore s new).change.foldl rechangeStep (pushCore s new)) := rfl

theorem pushAll_fields (s : St) (new : EMap) :
    (pushAll s new).saved = new ∧ (pushAll s new).change = s.change ∧ (pushAll s new).hidden = s.hidden := by
  rw [pushAll_eq, (rehide_fold_spec _ _).1, (rehide_fold_spec _ _).2.1, (rehide_fold_spec _ _).2.2.1, rechangeStep_eq,
    (push_fold_fields ..).1, (push_fold_fields ..).2.1, (push_fold_fields ..).2.2]
  exact pushCore_fields s new

/-- pushAllDiagnosticsAgain restores the view of every file with an unsaved buffer whatever the client held for it;
    of the other files only this is used: they showed the fresh view of the old map -/
theorem pushAll_consistent_of_fresh (s : St) (new : EMap) (hn : NodupKeys new) (hcn : NodupKeys s.change)
    (hs : ∀ f, lk s.change f = none → f ∉ s.hidden → s.client f = shown s.saved f) : Consistent (pushAll s new) := by
  intro f
  obtain ⟨hsaved, hchange, hhidden⟩ := pushAll_fields s new
  obtain ⟨csaved, cchange, chidden⟩ := pushCore_fields s new
  obtain ⟨rsaved, rchange, rhidden, rclient⟩ :=
    rechange_fold_spec (pushCore s new).change (pushCore s new) (cchange ▸ hcn)
  unfold view
  -- the view in the old maps; the client after the re-hide loop, the re-change loop and the comparison loops, in this order
  rw [hsaved, hchange, hhidden, pushAll_eq, (rehide_fold_spec _ _).2.2.2, rsaved, rchange, rhidden, rclient,
    csaved, cchange, chidden]
  cases hch : lk s.change f with
  | some e => simp
  | none =>
    by_cases hm : f ∈ s.hidden
    · simp [hm]
    · simp only [hm, false_and, if_false]
      exact pushCore_client s new hn f (hs f hch hm)

/-- THE re-publish theorem: after pushAllDiagnosticsAgain every file shows its view — the buffer's syntax errors,
    the saved non-syntax diagnostics, or the fresh view of the new map -/
theorem pushAll_consistent (s : St) (new : EMap) (hn : NodupKeys new) (hcn : NodupKeys s.change)
    (hs : Consistent s) : Consistent (pushAll s new) :=
  pushAll_consistent_of_fresh s new hn hcn fun f hch hm => (hs f).trans (view_of_clean hch hm)
#print axioms pushAll_consistent

/-- every file shows its view, and the unsaved-error map has one entry per file -/
def Inv (s : St) : Prop := Consistent s ∧ NodupKeys s.change

theorem pushAll_inv (s : St) (new : EMap) (hn : NodupKeys new) (hs : Inv s) : Inv (pushAll s new) :=
  ⟨pushAll_consistent s new hn hs.2 hs.1, by rw [(pushAll_fields s new).2.1]; exact hs.2⟩

/-- an edit (or an opened text) with syntax errors -/
theorem insertChange_inv (s : St) (f : File) (e : List Err) (hs : Inv s) : Inv (insertChange s f e) := by
  obtain ⟨p1, p2, p3⟩ := insertChange_spec s f e
  refine ⟨consistent_of_frame hs.1 p1 ?_, by rw [p2]; exact nodup_ins _ _ _ hs.2⟩
  rw [p3, view_of_some (p2 ▸ lk_ins_self ..)]

/-- an edit (or an opened text) without syntax errors -/
theorem cleanEdit_inv (s : St) (f : File) (hs : Inv s) : Inv (clearSyntax (clearChange s f) f) := by
  obtain ⟨cframe, csaved, _, cnone, cchange, cclient⟩ := clearChange_spec s f
  obtain ⟨sframe, ssaved, schange, smem, sclient⟩ := clearSyntax_spec (clearChange s f) f
  refine ⟨consistent_of_frame hs.1 (cframe.trans sframe) ?_, ?_⟩
  · rw [view_of_hidden (schange ▸ cnone) smem, sclient, ssaved, csaved, shown]
    cases hsv : lk s.saved f with
    | some e => rfl
    | none =>
      -- nothing is saved for `f`, so nothing was published; what the client held was empty already
      rw [cclient]
      cases hch : lk s.change f with
      | some c => rw [shown, hsv]; rfl
      | none =>
        refine (hs.1 f).trans ?_
        unfold view shown
        rw [hch, hsv]
        exact ite_self _
  · rw [schange]
    obtain h | h := cchange <;> rw [h]
    · exact hs.2
    · exact nodup_del _ _ hs.2

theorem evChange_inv (s : St) (f : File) (errs : List Err) (hs : Inv s) : Inv (evChange s f errs) := by
  unfold evChange
  split
  · exact cleanEdit_inv s f hs
  · exact insertChange_inv s f errs hs

theorem saveOne_inv (s : St) (f : File) (hs : Inv s) : Inv (saveOne s f) := by
  obtain ⟨p1, p2, p3, _, p5⟩ := saveOne_spec s f
  obtain ⟨c1, c2⟩ := saveOne_clean s f
  exact ⟨consistent_of_frame hs.1 p1 (by rw [view_of_clean c1 c2, p2, p5]), by rw [p3]; exact nodup_del _ _ hs.2⟩

theorem evSave_inv (s : St) (f : File) (new : EMap) (hn : NodupKeys new) (hs : Inv s) : Inv (evSave s f new) :=
  saveOne_inv _ f (pushAll_inv s new hn hs)

theorem evWatched_inv (s : St) (fs : List File) (new : EMap) (hn : NodupKeys new) (hs : Inv s) :
    Inv (evWatched s fs new) := pushAll_inv s new hn hs

theorem evClose_inv (s : St) (f : File) (inDir : Bool) (hs : Inv s) : Inv (evClose s f inDir) := by
  have h := saveOne_inv s f hs
  obtain ⟨c1, c2⟩ := saveOne_clean s f
  unfold evClose publish
  cases inDir with
  | true => exact h
  | false =>
    -- the file leaves `saved`, and the empty list is published for it
    simp only [Bool.false_eq_true, if_false]
    refine ⟨consistent_of_frame h.1 (fun _ hg => ⟨publish_client_ne hg .., rfl, Iff.rfl, lk_del_ne hg _⟩) ?_, h.2⟩
    rw [view_of_clean, shown, lk_del_self]
    · exact publish_client_self ..
    · exact c1
    · exact c2

/-- didOpen of a document that is not open (no unsaved entry is left of it): the opened text is the file's
    (`edit = none`) or differs from it (`some errs` = its syntax errors) -/
theorem evOpenWith_inv (s : St) (f : File) (new : EMap) (edit : Option (List Err)) (hn : NodupKeys new) (hs : Inv s)
    (hclosed : lk s.change f = none) : Inv (evOpenWith s f new edit) := by
  have hu := pushAll_inv s new hn hs
  have hcu : lk (pushAll s new).change f = none := by rw [(pushAll_fields s new).2.1]; exact hclosed
  unfold evOpenWith
  cases edit with
  | none =>
    rw [evOpen, clearChange_of_none hcu]
    exact hu
  | some errs =>
    dsimp only
    split
    · have h := cleanEdit_inv _ f hu
      rw [clearChange_of_none hcu] at h
      rw [clearChange_of_none ((clearSyntax_spec (pushAll s new) f).2.2.1 ▸ hcu)]
      exact h
    · exact insertChange_inv _ f errs hu

/-- the events of a history, each with the error map its analysis delivered -/
inductive Ev where
  | open (f : File) (new : EMap) (edit : Option (List Err))
  | change (f : File) (errs : List Err)
  | save (f : File) (new : EMap)
  | close (f : File) (inDir : Bool)
  | watched (fs : List File) (new : EMap)

def step (s : St) : Ev → St
  | .open f new edit => evOpenWith s f new edit
  | .change f errs => evChange s f errs
  | .save f new => evSave s f new
  | .close f inDir => evClose s f inDir
  | .watched fs new => evWatched s fs new

/-- what a history must satisfy: the error maps have one entry per file (they are Go maps), and didOpen is sent
    for a document of which no unsaved entry is left (it is not open: see `closed_is_clean`) -/
def okEv (s : St) : Ev → Prop
  | .open f new _ => NodupKeys new ∧ lk s.change f = none
  | .save _ new => NodupKeys new
  | .watched _ new => NodupKeys new
  | _ => True

def Valid : St → List Ev → Prop
  | _, [] => True
  | s, e :: r => okEv s e ∧ Valid (step s e) r

theorem step_inv (s : St) (e : Ev) (hs : Inv s) (ho : okEv s e) : Inv (step s e) := by
  cases e with
  | «open» f new edit => exact evOpenWith_inv s f new edit ho.1 hs ho.2
  | change f errs => exact evChange_inv s f errs hs
  | save f new => exact evSave_inv s f new ho hs
  | close f inDir => exact evClose_inv s f inDir hs
  | watched fs new => exact evWatched_inv s fs new ho hs

/-- C08 for the bookkeeping: along EVERY history, after EVERY event, every file shows its view -/
theorem history_consistent (evs : List Ev) (s : St) (hs : Inv s) (hv : Valid s evs) : Inv (evs.foldl step s) := by
  induction evs generalizing s with
  | nil => exact hs
  | cons e r ih => exact ih (step s e) (step_inv s e hs hv.1) hv.2
#print axioms history_consistent

/-- once no buffer is unsaved the view is what a freshly started server publishes for the saved map -/
theorem fresh_when_settled (s : St) (hs : Consistent s) (hc : s.change = []) (hh : s.hidden = []) (f : File) :
    s.client f = shown s.saved f :=
  (hs f).trans (view_of_clean (by rw [hc]; rfl) (by rw [hh]; exact List.not_mem_nil))
#print axioms fresh_when_settled

/-- closing a document leaves no unsaved entry of it (as saving does: `saveOne_clean`) -/
theorem closed_is_clean (s : St) (f : File) (inDir : Bool) :
    lk (evClose s f inDir).change f = none ∧ f ∉ (evClose s f inDir).hidden := by
  unfold evClose publish
  cases inDir <;> exact saveOne_clean s f
#print axioms closed_is_clean

/-- `t` has the unsaved entries of `s` for every file but `f` -/
def Keys (f : File) (s t : St) : Prop :=
  ∀ g, g ≠ f → lk t.change g = lk s.change g ∧ (g ∈ t.hidden ↔ g ∈ s.hidden)

theorem keys_of_frame {f : File} {s t : St} (h : Frame f s t) : Keys f s t :=
  fun g hg => ⟨(h g hg).2.1, (h g hg).2.2.1⟩

theorem keys_of_fields {f : File} {s t : St} (h2 : t.change = s.change) (h3 : t.hidden = s.hidden) : Keys f s t :=
  fun _ _ => ⟨by rw [h2], by rw [h3]⟩

theorem Keys.trans {f : File} {s t u : St} (h1 : Keys f s t) (h2 : Keys f t u) : Keys f s u :=
  fun g hg => ⟨(h2 g hg).1.trans (h1 g hg).1, (h2 g hg).2.trans (h1 g hg).2⟩

theorem pushAll_keys (f : File) (s : St) (new : EMap) : Keys f s (pushAll s new) :=
  keys_of_fields (pushAll_fields s new).2.1 (pushAll_fields s new).2.2

theorem evChange_keys (s : St) (f : File) (errs : List Err) : Keys f s (evChange s f errs) := by
  unfold evChange
  split
  · exact keys_of_frame ((clearChange_spec s f).1.trans (clearSyntax_spec _ f).1)
  · exact keys_of_frame (insertChange_spec s f errs).1

theorem evSave_keys (s : St) (f : File) (new : EMap) : Keys f s (evSave s f new) :=
  (pushAll_keys f s new).trans (keys_of_frame (saveOne_spec _ f).1)

theorem evClose_keys (s : St) (f : File) (inDir : Bool) : Keys f s (evClose s f inDir) := by
  have h := keys_of_frame (saveOne_spec s f).1
  unfold evClose publish
  cases inDir with
  | true => exact h
  | false => exact h.trans (keys_of_fields rfl rfl)

theorem evOpenWith_keys (s : St) (f : File) (new : EMap) (edit : Option (List Err)) :
    Keys f s (evOpenWith s f new edit) := by
  refine (pushAll_keys f s new).trans (keys_of_frame ?_)
  unfold evOpenWith
  cases edit with
  | none => exact (clearChange_spec _ f).1
  | some errs =>
    dsimp only
    split
    · exact (clearSyntax_spec _ f).1.trans (clearChange_spec _ f).1
    · exact (insertChange_spec _ f errs).1

/-- the documents the client has open after an event -/
def openedAfter (opened : List File) : Ev → List File
  | .open f _ _ => f :: opened
  | .close f _ => opened.filter (· != f)
  | _ => opened

/-- a conformant client sends didOpen only for a document that is not open and didChange only for one that is -/
def okC (opened : List File) : Ev → Prop
  | .open f new _ => NodupKeys new ∧ f ∉ opened
  | .change f _ => f ∈ opened
  | .save _ new => NodupKeys new
  | .watched _ new => NodupKeys new
  | .close _ _ => True

def ValidC : List File → List Ev → Prop
  | _, [] => True
  | o, e :: r => okC o e ∧ ValidC (openedAfter o e) r

/-- no unsaved entry is held for a document that is not open -/
def Closed (s : St) (opened : List File) : Prop := ∀ f, f ∉ opened → lk s.change f = none ∧ f ∉ s.hidden

/-- how `Closed` passes over an event for file `f`: the other files keep their entries (`hk`) and stay open
    (`hsub`); `f` itself is open afterwards or left without unsaved entry (`hf`) -/
theorem closed_of_keys {f : File} {s t : St} {opened after : List File} (hc : Closed s opened) (hk : Keys f s t)
    (hsub : ∀ g ∈ opened, g ≠ f → g ∈ after) (hf : f ∈ after ∨ lk t.change f = none ∧ f ∉ t.hidden) :
    Closed t after := by
  intro g hg
  by_cases hgf : g = f
  · subst hgf; exact hf.resolve_left hg
  · obtain ⟨k1, k2⟩ := hk g hgf
    obtain ⟨c1, c2⟩ := hc g fun h => hg (hsub g h hgf)
    exact ⟨k1.trans c1, fun h => c2 (k2.mp h)⟩

theorem step_closed (s : St) (opened : List File) (e : Ev) (hc : Closed s opened) (ho : okC opened e) :
    Closed (step s e) (openedAfter opened e) := by
  cases e with
  | «open» f new edit =>
    exact closed_of_keys hc (evOpenWith_keys s f new edit) (fun _ h _ => List.mem_cons_of_mem _ h) (.inl List.mem_cons_self)
  | change f errs => exact closed_of_keys hc (evChange_keys s f errs) (fun _ h _ => h) (.inl ho)
  | save f new => exact closed_of_keys hc (evSave_keys s f new) (fun _ h _ => h) (.inr (saveOne_clean _ f))
  | close f inDir =>
    exact closed_of_keys hc (evClose_keys s f inDir) (fun _ h hg => (mem_filter_ne ..).mpr ⟨h, hg⟩)
      (.inr (closed_is_clean s f inDir))
  | watched fs new =>
    intro g hg
    rw [step, evWatched, (pushAll_fields s new).2.1, (pushAll_fields s new).2.2]
    exact hc g hg

theorem okEv_of_okC (s : St) (opened : List File) (e : Ev) (hc : Closed s opened) (ho : okC opened e) : okEv s e := by
  cases e with
  | «open» f new edit => exact ⟨ho.1, (hc f ho.2).1⟩
  | change f errs => trivial
  | save f new => exact ho
  | close f inDir => trivial
  | watched fs new => exact ho

/-- C08 for the bookkeeping, stated over the protocol alone: for every history a conformant client can produce,
    whatever the analyses deliver, after every event every file shows its view -/
theorem conformant_history_consistent (evs : List Ev) (s : St) (opened : List File) (hs : Inv s)
    (hc : Closed s opened) (hv : ValidC opened evs) : Inv (evs.foldl step s) := by
  induction evs generalizing s opened with
  | nil => exact hs
  | cons e r ih =>
    exact ih (step s e) (openedAfter opened e) (step_inv s e hs (okEv_of_okC s opened e hc hv.1))
      (step_closed s opened e hc hv.1) hv.2
#print axioms conformant_history_consistent

/-- no unsaved entries, and the client holds exactly what a fresh server publishes for `saved` -/
def Settled (s : St) : Prop := s.change = [] ∧ s.hidden = [] ∧ ∀ f, s.client f = shown s.saved f

theorem settled_inv (s : St) (h : Settled s) : Inv s ∧ Closed s [] := by
  obtain ⟨h1, h2, h3⟩ := h
  have hcl : ∀ f, lk s.change f = none ∧ f ∉ s.hidden := fun f => by rw [h1, h2]; exact ⟨rfl, List.not_mem_nil⟩
  exact ⟨⟨fun f => (h3 f).trans (view_of_clean (hcl f).1 (hcl f).2).symm, by rw [h1]; exact List.nodup_nil⟩,
    fun f _ => hcl f⟩

/-- initialize publishes every list: the comparison loop run against an empty old map -/
theorem evInit_eq (m : EMap) : evInit m = m.foldl (pushStep []) { saved := m } := rfl

/-- a fresh server (initialize) is settled -/
theorem init_settled (m : EMap) (hn : NodupKeys m) : Settled (evInit m) ∧ (evInit m).saved = m := by
  rw [evInit_eq]
  obtain ⟨a, b, c⟩ := push_fold_fields [] m { saved := m }
  refine ⟨⟨b, c, fun f => ?_⟩, a⟩
  rw [push_fold_client [] m hn, a, shown]
  cases lk m f <;> rfl
#print axioms init_settled

/-- from a freshly started server, along every history of a conformant client, every file shows its view after
    every event; in particular (`fresh_when_settled`) once every buffer is saved or closed the client holds what a
    freshly started server publishes for the final error map -/
theorem from_fresh (m : EMap) (hn : NodupKeys m) (evs : List Ev) (hv : ValidC [] evs) :
    Consistent (evs.foldl step (evInit m)) :=
  (conformant_history_consistent evs (evInit m) [] (settled_inv _ (init_settled m hn).1).1
    (settled_inv _ (init_settled m hn).1).2 hv).1
#print axioms from_fresh

/-- the premises are satisfiable and the statement is not vacuous: an open-edit-(other file saved)-save history -/
example :
    ValidC [] [.open "f.lua" [("f.lua", [⟨2, "w", ""⟩])] none, .change "f.lua" [⟨1, "syntax", ""⟩],
               .save "g.lua" [("g.lua", [⟨2, "w", ""⟩])], .save "f.lua" []] := by
  simp [ValidC, okC, openedAfter, NodupKeys]

def w1 : Err := ⟨2, "w1", ""⟩
def syn : Err := ⟨1, "syntax", ""⟩

/-- K1 as it was (`pushAllOld`: the unsaved errors were re-shown only when the new map was empty): f.lua has an
    unsaved buffer with a syntax error; saving g.lua re-publishes everything and, because f.lua's saved list changed
    (its warning is gone), f.lua is cleared although its buffer still has the syntax error -/
theorem dirty_view_overridden_before :
    let s0 : St := { saved := [("f.lua", [w1])], client := fun g => if g == "f.lua" then [w1] else [] }
    let s1 := evChange s0 "f.lua" [syn]
    let s2 := saveOne (pushAllOld s1 [("g.lua", [w1])]) "g.lua"
    s1.client "f.lua" = [syn] ∧ hasKey s2.change "f.lua" = true ∧ s2.client "f.lua" = [] := by
  decide
#print axioms dirty_view_overridden_before

/-- K1 repaired: in the same history the buffer's syntax error stays; and a buffer WITHOUT syntax errors keeps
    hiding the saved syntax errors when another file is saved -/
theorem dirty_view_kept :
    let s0 : St := { saved := [("f.lua", [w1])], client := fun g => if g == "f.lua" then [w1] else [] }
    let s1 := evChange s0 "f.lua" [syn]
    let s2 := evSave s1 "g.lua" [("g.lua", [w1])]
    let t0 : St := { saved := [("f.lua", [syn, w1])], client := fun g => if g == "f.lua" then [syn, w1] else [] }
    let t1 := evChange t0 "f.lua" []
    let t2 := evSave t1 "g.lua" [("f.lua", [syn, w1]), ("g.lua", [w1])]
    s2.client "f.lua" = [syn] ∧ t1.client "f.lua" = [w1] ∧ t2.client "f.lua" = [w1] := by
  decide
#print axioms dirty_view_kept

/-- K2 as it was (IsSameErrList comparing ToString() only, `sameErrsOld`): the two lists look the same although
    the related location moved -/
theorem stale_extra_before :
    sameErrsOld [⟨3, "dup", "also defined at g.lua:1"⟩] [⟨3, "dup", "also defined at g.lua:7"⟩] = true ∧
    sameErrs [⟨3, "dup", "also defined at g.lua:1"⟩] [⟨3, "dup", "also defined at g.lua:7"⟩] = false := by
  decide
#print axioms stale_extra_before

/-- K2 repaired: a list that differs only in related information is published again -/
theorem extra_republished :
    let s0 : St := { saved := [("f.lua", [⟨3, "dup", "also defined at g.lua:1"⟩])],
                     client := fun g => if g == "f.lua" then [⟨3, "dup", "also defined at g.lua:1"⟩] else [] }
    let s1 := evSave s0 "g.lua" [("f.lua", [⟨3, "dup", "also defined at g.lua:7"⟩])]
    s1.client "f.lua" = [⟨3, "dup", "also defined at g.lua:7"⟩] ∧
    shown s1.saved "f.lua" = [⟨3, "dup", "also defined at g.lua:7"⟩] := by
  decide
#print axioms extra_republished

theorem save_fresh (s : St) (f : File) (new : EMap) (hs : Settled s) (hn : NodupKeys new) :
    Settled (evSave s f new) ∧ (evSave s f new).saved = new := by
  obtain ⟨_, p2, p3, p4, _⟩ := saveOne_spec (pushAll s new) f
  obtain ⟨q1, q2, q3⟩ := pushAll_fields s new
  have hc : (evSave s f new).change = [] := by rw [evSave, p3, q2, hs.1]; rfl
  have hh : (evSave s f new).hidden = [] := by rw [evSave, p4, q3, hs.2.1]; rfl
  exact ⟨⟨hc, hh, fresh_when_settled _ (evSave_inv s f new hn (settled_inv s hs).1).1 hc hh⟩, p2.trans q1⟩
#print axioms save_fresh

theorem watched_fresh (s : St) (fs : List File) (new : EMap) (hs : Settled s) (hn : NodupKeys new) :
    Settled (evWatched s fs new) ∧ (evWatched s fs new).saved = new := by
  obtain ⟨q1, q2, q3⟩ := pushAll_fields s new
  have hc := q2.trans hs.1
  have hh := q3.trans hs.2.1
  exact ⟨⟨hc, hh, fresh_when_settled _ (pushAll_inv s new hn (settled_inv s hs).1).1 hc hh⟩, q1⟩
#print axioms watched_fresh

theorem open_fresh (s : St) (f : File) (new : EMap) (hs : Settled s) (hn : NodupKeys new) :
    Settled (evOpen s f new) ∧ (evOpen s f new).saved = new := by
  have h : lk (pushAll s new).change f = none := by rw [(pushAll_fields s new).2.1, hs.1]; rfl
  rw [evOpen, clearChange_of_none h]
  exact watched_fresh s [] new hs hn
#print axioms open_fresh

/-- an edit whose buffer has syntax errors: the file shows exactly them, every other file is untouched -/
theorem change_with_errors (s : St) (f : File) (errs : List Err) (he : errs ≠ []) :
    (evChange s f errs).client f = errs ∧ ∀ g, g ≠ f → (evChange s f errs).client g = s.client g := by
  rw [evChange, List.isEmpty_eq_false_iff.mpr he]
  exact ⟨(insertChange_spec s f errs).2.2, fun g hg => ((insertChange_spec s f errs).1 g hg).1⟩
#print axioms change_with_errors

end LuaHelper.C08
