/-
C19 — "Symbol outlines list every declaration at its real place, findable by name".

 * the range arithmetic of a table symbol with members (`Outline.extend`, the formula of
   FindAllSymbol / FindAllLocalVal): for EVERY declaring Loc and EVERY list of member Locs the
   rewritten range is well formed, starts where the declaring identifier starts, contains the
   identifier and reaches the end of every member; the formula the code had before the repair
   (`extendOld`) produces a range that starts after it ends (witness);
 * the generated table `Gen.symRangeAssigns` (go/ast extraction of both builders) says the code
   writes exactly the fields `extend` writes (EndLine, EndColumn) — a change back to StartColumn
   breaks this theorem;
 * the spec `Outline.required` is sound w.r.t. S-bind: every required top-level local is a
   declaration occurrence of the reference binder, at the required Loc;
 * the per-file symbol collection of workspace/symbol runs on a worker pool; `dispatch_all` proves, for
   every number of files and every number of workers, that the dispatch scheme of Model/Pool sends every
   file index exactly once, in any completion order; `pools_shape` pins the five dispatch loops of the
   code (regenerated table `Gen.workerPools`: loop condition, refill guard, refill index, initial loop,
   clamp, increments) to exactly that scheme — an off-by-one in a refill index breaks it. These two live in
   Props/Pools.lean, which is also part of the checks of C06 (cross-file references) and C09.
-/
import LuaHelper.Spec.Outline
import LuaHelper.Gen.Symbols
namespace LuaHelper.C19
open LuaHelper.Lex LuaHelper.Ast LuaHelper.Bind LuaHelper.Outline

theorem posLe_iff {a b c d : Int} : posLe a b c d = true ↔ a < c ∨ (a = c ∧ b ≤ d) := by
  simp [posLe]

theorem posLe_refl (a b : Int) : posLe a b a b = true := posLe_iff.mpr (.inr ⟨rfl, Int.le_refl b⟩)

theorem posLe_total {a b c d : Int} (h : posLe a b c d = false) : posLe c d a b = true := by
  rw [← Bool.not_eq_true, posLe_iff] at h
  rw [posLe_iff]
  omega

theorem posLe_trans {a b c d e f : Int} (h1 : posLe a b c d = true) (h2 : posLe c d e f = true) :
    posLe a b e f = true := by
  rw [posLe_iff] at *
  rcases h1 with h1 | ⟨rfl, h1⟩ <;> rcases h2 with h2 | ⟨rfl, h2⟩
  · exact .inl (Int.lt_trans h1 h2)
  · exact .inl h1
  · exact .inl h2
  · exact .inr ⟨rfl, Int.le_trans h1 h2⟩

theorem maxEnd_upper (m : Int × Int) (c : Loc) :
    posLe m.1 m.2 (maxEnd m c).1 (maxEnd m c).2 = true ∧ posLe c.el c.ec (maxEnd m c).1 (maxEnd m c).2 = true := by
  simp only [maxEnd, Bool.and_eq_true, beq_iff_eq, decide_eq_true_eq]
  by_cases h1 : c.el > m.1
  · rw [if_pos h1]
    exact ⟨posLe_iff.mpr (.inl h1), posLe_refl _ _⟩
  · by_cases h2 : c.el = m.1 ∧ c.ec > m.2
    · rw [if_neg h1, if_pos h2]
      exact ⟨posLe_iff.mpr (.inr ⟨rfl, Int.le_of_lt h2.2⟩), posLe_iff.mpr (.inr ⟨h2.1, Int.le_refl _⟩)⟩
    · rw [if_neg h1, if_neg h2]
      exact ⟨posLe_refl _ _, posLe_iff.mpr (by omega)⟩

/-- `maxEnd` only moves the end forward -/
theorem maxEnd_ge (m : Int × Int) (c : Loc) :
    posLe m.1 m.2 (maxEnd m c).1 (maxEnd m c).2 = true :=
  (maxEnd_upper m c).1

theorem maxEnd_covers (m : Int × Int) (c : Loc) :
    posLe c.el c.ec (maxEnd m c).1 (maxEnd m c).2 = true :=
  (maxEnd_upper m c).2

theorem foldl_upper (cs : List Loc) (m : Int × Int) :
    posLe m.1 m.2 (cs.foldl maxEnd m).1 (cs.foldl maxEnd m).2 = true ∧
    ∀ c ∈ cs, posLe c.el c.ec (cs.foldl maxEnd m).1 (cs.foldl maxEnd m).2 = true := by
  induction cs generalizing m with
  | nil => exact ⟨posLe_refl _ _, fun _ h => absurd h List.not_mem_nil⟩
  | cons x cs ih =>
    obtain ⟨h1, h2⟩ := ih (maxEnd m x)
    rw [List.foldl_cons]
    exact ⟨posLe_trans (maxEnd_ge m x) h1, List.forall_mem_cons.mpr ⟨posLe_trans (maxEnd_covers m x) h1, h2⟩⟩

theorem foldl_ge (cs : List Loc) (m : Int × Int) :
    posLe m.1 m.2 (cs.foldl maxEnd m).1 (cs.foldl maxEnd m).2 = true :=
  (foldl_upper cs m).1

theorem foldl_covers (cs : List Loc) (m : Int × Int) (c : Loc) (hc : c ∈ cs) :
    posLe c.el c.ec (cs.foldl maxEnd m).1 (cs.foldl maxEnd m).2 = true :=
  (foldl_upper cs m).2 c hc

/-- the range of a function symbol contains the name it is declared by, whichever comes first, and the
    function itself — for every pair of Locs such that the name ends inside the function's extent (the name
    of `function f() … end` lies inside the function; the name of `local f = function … end` ends before it) -/
theorem funcSymbolLoc_contains (v f : Loc) (hnz : isInitialLoc v = false) (hv : wellFormed v = true)
    (hf : wellFormed f = true) (hend : posLe v.el v.ec f.el f.ec = true) :
    contains (funcSymbolLoc v f) v = true ∧ contains (funcSymbolLoc v f) f = true ∧
    wellFormed (funcSymbolLoc v f) = true := by
  -- the test of `funcSymbolLoc` asks whether the function starts at or before the name
  have hcond : (decide (v.sl > f.sl) || (v.sl == f.sl && decide (v.sc ≥ f.sc))) = posLe f.sl f.sc v.sl v.sc := by
    rw [posLe, BEq.comm (a := f.sl)]
  simp only [contains, Bool.and_eq_true]
  rw [funcSymbolLoc, hnz, Bool.false_or, hcond]
  cases hc : posLe f.sl f.sc v.sl v.sc
  · exact ⟨⟨posLe_refl _ _, hend⟩, ⟨posLe_total hc, posLe_refl _ _⟩, posLe_trans hv hend⟩
  · exact ⟨⟨hc, hend⟩, ⟨posLe_refl _ _, posLe_refl _ _⟩, hf⟩
#print axioms funcSymbolLoc_contains

/-- the former finding C19-K2: `local f = function(a) … end` — name at 1:6-1:7, function at 1:10-3:3: the symbol
    range is 1:6-3:3; for `function f() … end` (function 1:0-1:20, name 1:9-1:10) it is the function's range -/
example : funcSymbolLoc ⟨1, 6, 1, 7⟩ ⟨1, 10, 3, 3⟩ = ⟨1, 6, 3, 3⟩ ∧ funcSymbolLoc ⟨1, 9, 1, 10⟩ ⟨1, 0, 1, 20⟩ = ⟨1, 0, 1, 20⟩ := by
  decide

/-- the rewritten range keeps the start of the declaring identifier -/
theorem extend_start (d : Loc) (cs : List Loc) : (extend d cs).sl = d.sl ∧ (extend d cs).sc = d.sc :=
  ⟨rfl, rfl⟩

/-- for every declaring Loc and every list of member Locs: well formed and contains the identifier -/
theorem extend_wellformed_contains (d : Loc) (cs : List Loc) (hd : wellFormed d = true) :
    wellFormed (extend d cs) = true ∧ contains (extend d cs) d = true :=
  have h := foldl_ge cs (d.el, d.ec)
  ⟨posLe_trans hd h, Bool.and_eq_true_iff.mpr ⟨posLe_refl _ _, h⟩⟩
#print axioms extend_wellformed_contains

/-- … and reaches the end of every member -/
theorem extend_covers_members (d : Loc) (cs : List Loc) (c : Loc) (hc : c ∈ cs) :
    posLe c.el c.ec (extend d cs).el (extend d cs).ec = true :=
  foldl_covers cs _ c hc
#print axioms extend_covers_members

/-- the formula before the repair: `local u = { x = 1, y = function() end }` (identifier 1:6-1:7,
    members ending at 1:13 and 1:37) gets the range 1:37-1:7, which starts after it ends -/
theorem extendOld_witness :
    wellFormed (extendOld ⟨1, 6, 1, 7⟩ [⟨1, 12, 1, 13⟩, ⟨1, 23, 1, 37⟩]) = false ∧
    contains (extendOld ⟨1, 6, 1, 7⟩ [⟨1, 12, 1, 13⟩, ⟨1, 23, 1, 37⟩]) ⟨1, 6, 1, 7⟩ = false := by decide
#print axioms extendOld_witness

/-- premises satisfiable: a concrete well-formed identifier with members on later lines -/
example : wellFormed ⟨5, 6, 5, 7⟩ = true ∧ extend ⟨5, 6, 5, 7⟩ [⟨6, 2, 6, 3⟩, ⟨7, 0, 9, 3⟩] = ⟨5, 6, 9, 3⟩ := by decide

/-- the code writes exactly the fields `extend` writes (regenerated from /repo on every run) -/
theorem range_rewrite_sites :
    Gen.symRangeAssigns =
      [("FindAllSymbol", "EndLine", "EndLine"), ("FindAllSymbol", "EndColumn", "EndColumn"),
       ("FindAllLocalVal", "EndLine", "EndLine"), ("FindAllLocalVal", "EndColumn", "EndColumn")] := rfl
#print axioms range_rewrite_sites

theorem localDecls_eq (sl : Loc) (names : List (Bytes × Loc × Nat)) (exps : List Exp) :
    (localDecls sl names exps).map (fun o => (o.name, o.loc, o.isDecl)) =
      (localPairs names exps).map (fun p => (p.1, p.2.1, true)) := by
  fun_induction localPairs names exps <;> simp [localDecls, declOcc, *]

theorem localPairs_decl (sl : Loc) (names : List (Bytes × Loc × Nat)) (exps : List Exp)
    (n : Bytes) (l : Loc) (e : Option Exp) (h : (n, l, e) ∈ localPairs names exps) :
    ∃ o ∈ localDecls sl names exps, o.isDecl = true ∧ o.loc = l ∧ o.name = n := by
  have : (n, l, true) ∈ (localPairs names exps).map (fun p => (p.1, p.2.1, true)) := List.mem_map.mpr ⟨_, h, rfl⟩
  rw [← localDecls_eq sl] at this
  obtain ⟨o, ho, he⟩ := List.mem_map.mp this
  simp only [Prod.mk.injEq] at he
  exact ⟨o, ho, he.2.2, he.2.1, he.1⟩

theorem bStats_cons (env : Env) (s : Stat) (r : List Stat) :
    (bStats false env (s :: r)).1 = (bStat false env s).1 ++ (bStats false (bStat false env s).2 r).1 := by
  simp [bStats]

/-- every top-level local required by the outline spec is a declaration occurrence of S-bind -/
theorem topLocals_declared (ss : List Stat) (env : Env) (n : Bytes) (l : Loc) (e : Option Exp)
    (h : (n, l, e) ∈ topLocals ss) :
    ∃ o ∈ (bStats false env ss).1, o.isDecl = true ∧ o.loc = l ∧ o.name = n := by
  fun_induction topLocals ss generalizing env with
  | case1 => cases h
  | case2 names exps sl r ih =>
    rw [bStats_cons]
    rcases List.mem_append.mp h with h | h
    · obtain ⟨o, ho, hp⟩ := localPairs_decl sl names exps n l e h
      exact ⟨o, List.mem_append_left _ (List.mem_append_right _ ho), hp⟩
    · obtain ⟨o, ho, hp⟩ := ih _ h
      exact ⟨o, List.mem_append_right _ ho, hp⟩
  | case3 fnm nl f sl r ih =>
    rw [bStats_cons]
    rcases List.mem_cons.mp h with h | h
    · cases h
      exact ⟨_, List.mem_append_left _ List.mem_cons_self, rfl, rfl, rfl⟩
    · obtain ⟨o, ho, hp⟩ := ih _ h
      exact ⟨o, List.mem_append_right _ ho, hp⟩
  | case4 s r _ _ ih =>
    rw [bStats_cons]
    obtain ⟨o, ho, hp⟩ := ih _ h
    exact ⟨o, List.mem_append_right _ ho, hp⟩

theorem required_locals_declared (b : Block) (n : Bytes) (l : Loc) (e : Option Exp)
    (h : (n, l, e) ∈ topLocals (blockStats b)) :
    ∃ o ∈ bindChunk b, o.isDecl = true ∧ o.loc = l ∧ o.name = n := by
  obtain ⟨ss, ret, bl⟩ := b
  obtain ⟨o, ho, hp⟩ := topLocals_declared ss [] n l e h
  refine ⟨o, ?_, hp⟩
  unfold bindChunk
  cases ret <;> simp [bBlock, ho]
#print axioms required_locals_declared

end LuaHelper.C19
