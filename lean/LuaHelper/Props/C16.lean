/-
C16 — "Every documented annotation form is accepted with its structure intact".

Model: Model/Annot.lean (lexer, type grammar, statement parsers, printer), tied to the code by comparing
the real ParserLine / TypeConvertStr with the model on grammar-derived lines and their corruptions.
Proved here, for ALL types of the canonical fragment (names, `table`, `table<K, V>`, parenthesised unions, any
number of array suffixes, unions of those, nested to any depth) and ALL token contexts:
 * `roundtrip`: reading the tokens of the printed form gives back exactly the same type and leaves the
   following tokens untouched, with the fuel the model's `parseLine` provides being enough
   (`roundtrip_with_model_fuel`);
 * `roundtrip_fails_*`: outside the fragment the property is false of the model (and of the code):
   a fun type prints as `function(…)`, which reads back as the name `function` (class K2); a quoted
   constant loses its quotes (K3).  (A parenthesised union under `[]` used to lose its parentheses — finding K4,
   repaired: `paren_union_printed`; parenthesised unions of two or more types are inside the fragment.)
   (`T[][]` used to be cut after the first suffix — finding K1, repaired: `arrSuffix_arrs`, `nested_array_read`.)
The round trip (`rt`) and the fuel bound (`cost_le`) are each one induction over the fragment (`canon_induct`), with
one statement per level of the grammar: base type, single type with `[]` suffixes, union loop, union.
-/
import LuaHelper.Model.Annot
import LuaHelper.Gen.Shapes
namespace LuaHelper.C16
open LuaHelper.Annot
abbrev Bytes := LuaHelper.Lex.Bytes

/-- the model's keyword table is the Go map `keywords` of annotate_token.go (regenerated every run) -/
theorem keywords_match :
    Gen.annotKeywords =
      ["alias=ATokenKwAlias", "class=ATokenKwClass", "const=ATokenKwConst", "enum=ATokenKwEnum", "field=ATokenKwField",
       "fun=ATokenKwFun", "generic=ATokenKwGeneric", "overload=ATokenKwOverload", "param=ATokenKwParam",
       "private=ATokenKwPrivate", "protected=ATokenKwProtected", "public=ATokenKwPubic", "return=ATokenKwReturn",
       "table=ATokenKwTable", "type=ATokenKwType", "vararg=ATokenKwVararg"] ∧
    (kwTable.map (·.1)).length = 16 ∧
    ∀ w ∈ ["alias", "class", "const", "enum", "field", "fun", "generic", "overload", "param", "private", "protected",
           "public", "return", "table", "type", "vararg"], (kwTable.map (·.1)).contains w = true :=
  ⟨rfl, rfl, by decide +kernel⟩
#print axioms keywords_match

/-- the token after a printed type must not continue it -/
def Stops (rest : List Tok) : Prop :=
  rest.head? ≠ some .bor ∧ rest.head? ≠ some .lbrack ∧ rest.head? ≠ some .lt

theorem arrSuffix_stop (t : Ty) (rest : List Tok) (h : rest.head? ≠ some .lbrack) :
    arrSuffix t rest = some (t, rest) := by
  fun_cases arrSuffix t rest
  · exact absurd rfl h
  · exact absurd rfl h
  · rfl

/-- n array suffixes as tokens, and what they make of a type -/
def arrs : Nat → List Tok
  | 0 => []
  | n + 1 => .lbrack :: .rbrack :: arrs n
def arrN : Nat → Ty → Ty
  | 0, t => t
  | n + 1, t => arrN n (.array t)

/-- every `[]` suffix is read (since the repair of finding K1), each wrapping what was read so far -/
theorem arrSuffix_arrs (n : Nat) : ∀ (t : Ty) (rest : List Tok), rest.head? ≠ some .lbrack →
    arrSuffix t (arrs n ++ rest) = some (arrN n t, rest) := by
  induction n with
  | zero => exact arrSuffix_stop
  | succ n ih =>
    intro t rest h
    exact ih (.array t) rest h
#print axioms arrSuffix_arrs

theorem arrs_head_ne_lt (n : Nat) (rest : List Tok) (h : rest.head? ≠ some .lt) :
    (arrs n ++ rest).head? ≠ some .lt := by
  cases n with
  | zero => exact h
  | succ n => exact nofun

theorem pBase_tableE (f : Nat) (rest : List Tok) (h : rest.head? ≠ some .lt) :
    pBase (f + 1) (.kw .table :: rest) = some (.tableE, rest) := by
  rw [pBase]
  rintro _ rfl
  exact h rfl

theorem pBase_normal (f : Nat) (n : Bytes) (rest : List Tok) :
    pBase (f + 1) (.ident n :: rest) = some (.normal n, rest) := by rw [pBase]

/-- the `table<K, V>` case of pBase, given that K and V read back -/
theorem pBase_table (f : Nat) (k v : Ty) (rest : List Tok)
    (e1 : pOne f (toksM k ++ (.comma :: (toksM v ++ (.gt :: rest)))) = some (k, .comma :: (toksM v ++ (.gt :: rest))))
    (e2 : pOne f (toksM v ++ (.gt :: rest)) = some (v, .gt :: rest)) :
    pBase (f + 1) (toksB (.table k v) ++ rest) = some (.table k v, rest) := by
  simp only [toksB, List.append_assoc, List.cons_append, List.nil_append]
  rw [pBase, e1]
  simp only [e2]

/-- the `( … )` case of pBase, given that the union inside reads back -/
theorem pBase_paren (g : Nat) (t : Ty) (l : List Ty) (rest : List Tok)
    (e : pOneList g (toksS t ++ toksL l ++ (.rparen :: rest)) = some (t :: l, .rparen :: rest)) :
    pBase (g + 2) (.lparen :: (toksS t ++ toksL l) ++ [.rparen] ++ rest) = some (.multi (t :: l), rest) := by
  rw [List.append_assoc, List.cons_append, List.singleton_append, pBase, pOne, e]

/-- the last member of a union: what follows is not a '|' -/
theorem pOneList_last {f : Nat} {ts r : List Tok} {t : Ty} (e : pSingle f ts = some (t, r))
    (h : r.head? ≠ some .bor) : pOneList (f + 1) ts = some ([t], r) := by
  rw [pOneList, e]
  split <;> simp_all

/-- a member followed by '|': the loop goes on -/
theorem pOneList_bor {f : Nat} {ts r r' : List Tok} {t : Ty} {l : List Ty} (e : pSingle f ts = some (t, .bor :: r))
    (e2 : pOneList f r = some (l, r')) : pOneList (f + 1) ts = some (t :: l, r') := by
  rw [pOneList, e]
  simp only [e2]

/-- a printed union reads back if its first member does and the loop reads the others -/
theorem pOneList_union {t : Ty} {l : List Ty} {f : Nat} {rest : List Tok} (hs : Stops rest)
    (hS : ∀ n rest, rest.head? ≠ some .lt → rest.head? ≠ some .lbrack →
      pSingle f (toksS t ++ (arrs n ++ rest)) = some (arrN n t, rest))
    (hL : ∀ t ts, pSingle f ts = some (t, toksL l ++ rest) → pOneList (f + 1) ts = some (t :: l, rest)) :
    pOneList (f + 1) (toksS t ++ toksL l ++ rest) = some (t :: l, rest) := by
  have hd : (toksL l ++ rest).head? ≠ some .lt ∧ (toksL l ++ rest).head? ≠ some .lbrack := by
    cases l <;> rw [toksL]
    · exact ⟨hs.2.2, hs.2.1⟩
    · exact ⟨nofun, nofun⟩
  rw [List.append_assoc]
  exact hL t _ (hS 0 _ hd.1 hd.2)

/-- the fuel of a construct with two parts: `k` steps for itself, and enough for either part -/
theorem fuel_split {a b k f : Nat} (h : max a b + k ≤ f) : ∃ g, f = g + k ∧ a ≤ g ∧ b ≤ g := by
  obtain ⟨g, rfl⟩ := Nat.exists_eq_add_of_le' (Nat.le_of_add_left_le h)
  exact ⟨g, rfl, Nat.max_le.mp (Nat.le_of_add_le_add_right h)⟩

/-- Induction over the canonical fragment, along the recursion of `canonB`, `canonS`, `canonM` and `canonL`:
    one case for each form of type the four predicates accept. The four conclusions come in the order of
    `canonB.mutual_induct`: base, union list, single, union — and so do the parts of `rt` and `cost_le`. -/
theorem canon_induct {B S M : Ty → Prop} {L : List Ty → Prop}
    (normal : ∀ n, B (.normal n)) (tableE : B .tableE)
    (table : ∀ k v, M k → M v → B (.table k v))
    (paren : ∀ t t2 l, S t → L (t2 :: l) → B (.multi (t :: t2 :: l)))
    (nil : L []) (cons : ∀ t l, S t → L l → L (t :: l))
    (array : ∀ t, S t → S (.array t)) (base : ∀ b, (∀ t, b = .array t → False) → B b → S b)
    (multi : ∀ t l, S t → L l → M (.multi (t :: l))) :
    (∀ b, canonB b = true → B b) ∧ (∀ l, canonL l = true → L l) ∧
    (∀ s, canonS s = true → S s) ∧ (∀ m, canonM m = true → M m) := by
  apply canonB.mutual_induct
  · exact fun n _ => normal n
  · exact fun _ => tableE
  · intro k v ihk ihv hc
    simp only [canonB, Bool.and_eq_true] at hc
    exact table k v (ihk hc.1) (ihv hc.2)
  · intro t t2 l ihS ihL hc
    simp only [canonB, Bool.and_eq_true] at hc
    exact paren t t2 l (ihS hc.1) (ihL hc.2)
  · intro b h1 h2 h3 h4 hc
    rw [canonB.eq_5 b h1 h2 h3 h4] at hc
    contradiction
  · exact fun _ => nil
  · intro t l ihS ihL hc
    simp only [canonL, Bool.and_eq_true] at hc
    exact cons t l (ihS hc.1) (ihL hc.2)
  · intro t ih hc
    rw [canonS] at hc
    exact array t (ih hc)
  · intro b hb ih hc
    rw [canonS.eq_2 b hb] at hc
    exact base b hb (ih hc)
  · intro t l ihS ihL hc
    simp only [canonM, Bool.and_eq_true] at hc
    exact multi t l (ihS hc.1) (ihL hc.2)
  · intro m h hc
    rw [canonM.eq_2 m h] at hc
    contradiction

/-- Print-and-read at the four levels of the grammar. The union loop is stated as its invariant: once a member `t`
    has been read up to the printed remaining members `l`, `pOneList` returns `t :: l`. -/
theorem rt :
    (∀ b, canonB b = true → ∀ f, costB b ≤ f → ∀ rest, rest.head? ≠ some .lt →
      pBase f (toksB b ++ rest) = some (b, rest)) ∧
    (∀ l, canonL l = true → ∀ f, costL l ≤ f → ∀ rest, Stops rest → ∀ t ts,
      pSingle f ts = some (t, toksL l ++ rest) → pOneList (f + 1) ts = some (t :: l, rest)) ∧
    (∀ s, canonS s = true → ∀ f, costS s ≤ f → ∀ n rest, rest.head? ≠ some .lt → rest.head? ≠ some .lbrack →
      pSingle f (toksS s ++ (arrs n ++ rest)) = some (arrN n s, rest)) ∧
    (∀ m, canonM m = true → ∀ f, costM m ≤ f → ∀ rest, Stops rest →
      pOne f (toksM m ++ rest) = some (m, rest)) := by
  apply canon_induct
  case normal =>
    intro n f hf rest _
    simp only [costB] at hf
    obtain ⟨g, rfl⟩ := Nat.exists_eq_add_of_le' hf
    rw [toksB]
    exact pBase_normal g n rest
  case tableE =>
    intro f hf rest hlt
    simp only [costB] at hf
    obtain ⟨g, rfl⟩ := Nat.exists_eq_add_of_le' hf
    rw [toksB]
    exact pBase_tableE g rest hlt
  case table =>
    intro k v ihk ihv f hf rest _
    rw [costB] at hf
    obtain ⟨g, rfl, hg⟩ := fuel_split hf
    exact pBase_table (g + 1) k v rest (ihk _ (Nat.le_succ_of_le hg.1) _ (by simp [Stops]))
      (ihv _ (Nat.le_succ_of_le hg.2) _ (by simp [Stops]))
  case paren =>
    intro t t2 l ihS ihL f hf rest _
    rw [costB] at hf
    obtain ⟨g, rfl, hg⟩ := fuel_split hf
    rw [toksB]
    exact pBase_paren (g + 1) t (t2 :: l) rest
      (pOneList_union (by simp [Stops]) (ihS g hg.1) (ihL g hg.2 _ (by simp [Stops])))
  case nil =>
    intro f _ rest hs t ts e
    rw [toksL] at e
    exact pOneList_last e hs.1
  case cons =>
    intro t2 l ihS ihL f hf rest hs t ts e
    rw [costL] at hf
    obtain ⟨g, rfl, hg⟩ := fuel_split hf
    rw [toksL, List.cons_append, List.cons_append] at e
    exact pOneList_bor e (pOneList_union hs (ihS g hg.1) (ihL g hg.2 rest hs))
  case array =>
    intro t ih f hf n rest hlt hlb
    rw [costS] at hf
    rw [toksS, List.append_assoc]
    -- `arrs (n + 1)` and `arrN (n + 1) t` unfold to what the goal has
    exact ih f hf (n + 1) rest hlt hlb
  case base =>
    intro b hb ih f hf n rest hlt hlb
    rw [costS.eq_2 b hb] at hf
    obtain ⟨g, rfl⟩ := Nat.exists_eq_add_of_le' (Nat.le_of_add_left_le hf)
    rw [toksS.eq_2 b hb, pSingle, ih g (Nat.le_of_add_le_add_right hf) _ (arrs_head_ne_lt n rest hlt)]
    exact arrSuffix_arrs n b rest hlb
  case multi =>
    intro t l ihS ihL f hf rest hs
    rw [costM] at hf
    obtain ⟨g, rfl, hg⟩ := fuel_split hf
    rw [toksM, pOne, pOneList_union hs (ihS g hg.1) (ihL g hg.2 rest hs)]

theorem rtB : (b : Ty) → canonB b = true → (f : Nat) → costB b ≤ f → (rest : List Tok) →
    rest.head? ≠ some .lt → pBase f (toksB b ++ rest) = some (b, rest) := rt.1
theorem rtS : (s : Ty) → canonS s = true → (f : Nat) → costS s ≤ f → (n : Nat) → (rest : List Tok) →
    rest.head? ≠ some .lt → rest.head? ≠ some .lbrack →
    pSingle f (toksS s ++ (arrs n ++ rest)) = some (arrN n s, rest) := rt.2.2.1
/-- the union loop: first member `t`, remaining members `l` -/
theorem rtL : (t : Ty) → (l : List Ty) → canonS t = true → canonL l = true → (f : Nat) →
    costL (t :: l) ≤ f → (rest : List Tok) → Stops rest →
    pOneList f (toksS t ++ toksL l ++ rest) = some (t :: l, rest) := by
  intro t l ht hl f hf rest hs
  rw [costL] at hf
  obtain ⟨g, rfl, hg⟩ := fuel_split hf
  exact pOneList_union hs (rtS t ht g hg.1) (rt.2.1 l hl g hg.2 rest hs)

/-- PRINT-AND-READ: for every canonical type, reading the tokens of its printed form returns the same
    type and leaves whatever follows (a comment, a ',', a '>' …) untouched -/
theorem rtM : (m : Ty) → canonM m = true → (f : Nat) → costM m ≤ f → (rest : List Tok) → Stops rest →
    pOne f (toksM m ++ rest) = some (m, rest) := rt.2.2.2

theorem roundtrip (m : Ty) (hc : canonM m = true) (rest : List Tok) (hs : Stops rest)
    (f : Nat) (hf : costM m ≤ f) : pOne f (toksM m ++ rest) = some (m, rest) :=
  rtM m hc f hf rest hs
#print axioms roundtrip

theorem cost_le :
    (∀ b, canonB b = true → costB b ≤ 2 * (toksB b).length) ∧
    (∀ l, canonL l = true → costL l ≤ 2 * (toksL l).length + 1) ∧
    (∀ s, canonS s = true → costS s ≤ 2 * (toksS s).length + 1) ∧
    (∀ m, canonM m = true → costM m ≤ 2 * (toksM m).length + 3) := by
  apply canon_induct
  case base =>
    intro b hb h
    rw [costS.eq_2 b hb, toksS.eq_2 b hb]
    exact Nat.succ_le_succ h
  case paren =>
    -- apart from the rest: the hypothesis speaks of `costL (t2 :: l)` and `toksL (t2 :: l)`, which stay folded
    intro t t2 l ht hl
    simp only [costB, toksB, List.length_append, List.length_cons, List.length_nil]
    omega
  all_goals
    intros
    simp only [costB, costS, costM, costL, toksB, toksS, toksM, toksL, List.length_append, List.length_cons,
      List.length_nil]
    omega

theorem costB_le : (b : Ty) → canonB b = true → costB b ≤ 2 * (toksB b).length := cost_le.1
theorem costS_le : (s : Ty) → canonS s = true → costS s ≤ 2 * (toksS s).length + 1 := cost_le.2.2.1
theorem costL_le : (l : List Ty) → canonL l = true → costL l ≤ 2 * (toksL l).length + 1 := cost_le.2.1
theorem costM_le : (m : Ty) → canonM m = true → costM m ≤ 2 * (toksM m).length + 3 := cost_le.2.2.2

/-- with the fuel `parseLine` uses for a line whose tokens contain the printed type and at least one
    more token (the statement keyword), the printed form reads back -/
theorem roundtrip_with_model_fuel (m : Ty) (hc : canonM m = true) (rest : List Tok) (hs : Stops rest)
    (n : Nat) (hn : (toksM m).length + 1 ≤ n) : pOne (2 * n + 4) (toksM m ++ rest) = some (m, rest) :=
  roundtrip m hc rest hs _ (by have := costM_le m hc; omega)
#print axioms roundtrip_with_model_fuel

/-- premises satisfiable: `table<string, People[]> | number` followed by an `@` comment -/
example :
    let m : Ty := .multi [.table (.multi [.normal [115]]) (.multi [.array (.normal [80])]), .normal [110]]
    canonM m = true ∧ Stops [.at] ∧ pOne (costM m) (toksM m ++ [.at]) = some (m, [.at]) := by
  intro m
  have hc : canonM m = true := by simp [m, canonM, canonS, canonB, canonL]
  have hs : Stops [.at] := by simp [Stops]
  exact ⟨hc, hs, roundtrip m hc _ hs _ (Nat.le_refl _)⟩

def strB (s : String) : Bytes := LuaHelper.Lex.bytesOfString s

/-- K2: `fun(a: string)` is printed as `function(a: string)`, which reads back as the NAME `function` -/
theorem roundtrip_fails_fun :
    (parseLine (strB "type fun(a: string)")).map (fun st => match st with | .type _ _ [t] _ => pr t | _ => []) =
      some (strB "function(a: string)") ∧
    (parseLine (strB "type function(a: string)")).map (fun st => match st with | .type _ _ [t] _ => pr t | _ => []) =
      some (strB "function") := by decide +kernel
#print axioms roundtrip_fails_fun

/-- K3: the quoted constant '"r"' is printed as "r", which reads back as the unquoted constant r -/
theorem roundtrip_fails_const :
    (parseLine (strB "type '\"r\"'")).map (fun st => match st with | .type _ _ [t] _ => pr t | _ => []) = some (strB "\"r\"") ∧
    (parseLine (strB "type \"r\"")).map (fun st => match st with | .type _ _ [t] _ => pr t | _ => []) = some (strB "r") := by
  decide +kernel
#print axioms roundtrip_fails_const

/-- the former finding K4, repaired: a union of several types that is the item of an array (or a member of another
    union) is printed WITH its parentheses, and the printed form reads back as the same type (the general statement
    is `roundtrip`, whose fragment now contains parenthesised unions) -/
theorem paren_union_printed :
    (parseLine (strB "type (A|B)[]")).map (fun st => match st with | .type _ _ [t] _ => pr t | _ => []) =
      some (strB "(A | B)[]") ∧
    (parseLine (strB "type (A | B)[]")).map (fun st => match st with | .type _ _ [.multi [.array (.multi l)]] _ => l.length | _ => 0) = some 2 ∧
    (parseLine (strB "type A | (B | C)")).map (fun st => match st with | .type _ _ [t] _ => pr t | _ => []) =
      some (strB "A | (B | C)") := by
  decide +kernel
#print axioms paren_union_printed

/-- premises of `roundtrip` satisfiable with a parenthesised union: `(A | B[])[] | table<string, (A | B)>` -/
example :
    let m : Ty := .multi [.array (.multi [.normal [65], .array (.normal [66])]),
                          .table (.multi [.normal [115]]) (.multi [.multi [.normal [65], .normal [66]]])]
    canonM m = true ∧ pOne (costM m) (toksM m ++ [.at]) = some (m, [.at]) := by
  intro m
  have hc : canonM m = true := by simp [m, canonM, canonS, canonB, canonL]
  exact ⟨hc, roundtrip m hc _ (by simp [Stops]) _ (Nat.le_refl _)⟩

/-- the former finding K1, repaired: every `[]` suffix is read — `string[][]` is an array of arrays, printed as it was
    written (the general statement is `roundtrip`, whose fragment now has arrays of any depth) -/
theorem nested_array_read :
    (parseLine (strB "type string[][] @grid")).map
        (fun st => match st with | .type _ _ [.multi [.array (.array (.normal n))]] cm => (n, cm) | _ => ([], [])) =
      some (strB "string", strB "grid") ∧
    (parseLine (strB "type string[][]")).map (fun st => match st with | .type _ _ [t] _ => pr t | _ => []) =
      some (strB "string[][]") := by decide +kernel
#print axioms nested_array_read

/-- premises of `roundtrip` satisfiable with nested arrays: `table<string, People[][]>[] | number` -/
example :
    let m : Ty := .multi [.array (.table (.multi [.normal [115]]) (.multi [.array (.array (.normal [80]))])), .normal [110]]
    canonM m = true ∧ pOne (costM m) (toksM m ++ [.at]) = some (m, [.at]) := by
  intro m
  have hc : canonM m = true := by simp [m, canonM, canonS, canonB, canonL]
  exact ⟨hc, roundtrip m hc _ (by simp [Stops]) _ (Nat.le_refl _)⟩

end LuaHelper.C16
