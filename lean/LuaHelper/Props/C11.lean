/-
C11 — "Rename never changes the meaning of the program".

A rename of the local declared at `d` to a fresh name `n'` replaces the identifier at every occurrence
bound to `d` (that set is C06's reference set).  Proved here for Lua's binder S-bind (`Bind.bindChunk`),
for ALL programs, all nesting depths, any environment:
  `alpha_rename` : after the replacement every identifier occurrence — renamed or not — is bound to
  exactly the declaration it was bound to before (same occurrences, same declaration Locs, same
  declaration / write flags), provided the new name occurs nowhere in the chunk.
So the binding structure is invariant under the edit: no capture, no loss.  (That the real server's
edit list IS that replacement is C06 + C04; the harness additionally applies the real edits, re-parses
and re-binds.)
-/
import LuaHelper.Spec.Bind
namespace LuaHelper.C11
open LuaHelper.Lex LuaHelper.Ast LuaHelper.Bind

variable (d : Loc) (n' : Bytes)

/-- new spelling of a USE of `x` seen in environment `env` -/
def rnName (env : Env) (x : Bytes) : Bytes := if lookup env x == some d then n' else x
/-- new spelling of a DECLARATION `x` at `l` -/
def rnDecl (x : Bytes) (l : Loc) : Bytes := if l == d then n' else x

/-- the environment of the renamed program -/
def renEnv (env : Env) : Env := env.map fun p => (rnDecl d n' p.1 p.2, p.2)

/-- what the theorem compares: everything of an occurrence except spellings -/
def core (o : Occ) : Loc × Option Loc × Bool × Bool := (o.loc, o.decl, o.isDecl, o.isWrite)

theorem lookup_cons (p : Bytes × Loc) (env : Env) (x : Bytes) :
    lookup (p :: env) x = if p.1 == x then some p.2 else lookup env x := by
  unfold lookup
  rw [List.find?_cons]
  cases p.1 == x <;> rfl

/-- looking up the NEW spelling in the NEW environment gives the OLD binding -/
theorem lookup_renEnv (env : Env) (x : Bytes) (hx : x ≠ n') (hf : ∀ p ∈ env, p.1 ≠ n') :
    lookup (renEnv d n' env) (rnName d n' env x) = lookup env x := by
  induction env with
  | nil => rfl
  | cons p r ih =>
    obtain ⟨y, l⟩ := p
    have ih := ih fun q hq => hf q (List.mem_cons_of_mem _ hq)
    have hy : y ≠ n' := hf (y, l) List.mem_cons_self
    simp only [renEnv, List.map_cons, rnName, lookup_cons, rnDecl] at ih ⊢
    by_cases hyx : y = x
    · -- the head binds x: it is re-spelled exactly when x is
      by_cases hl : l = d <;> simp [hyx, hl]
    · -- The head does not bind x, so the tail decides (`ih`), provided the head's new name is not the new spelling
      -- of x. They coincide only as `n'`: the head is the renamed declaration and the tail binds x to it as well.
      by_cases hl : l = d <;> by_cases hr : lookup r x = some d <;>
        simp [hyx, hl, hr, hy, Ne.symm hx] at ih ⊢
      all_goals exact ih

def rnParams (ps : List (Bytes × Loc)) : List (Bytes × Loc) := ps.map fun p => (rnDecl d n' p.1 p.2, p.2)
def rnNames (ns : List (Bytes × Loc × Nat)) : List (Bytes × Loc × Nat) := ns.map fun p => (rnDecl d n' p.1 p.2.1, p.2.1, p.2.2)

mutual
def rnExp (env : Env) : Exp → Exp
  | .name x l => .name (rnName d n' env x) l
  | .unop o e l => .unop o (rnExp env e) l
  | .binop o a b l => .binop o (rnExp env a) (rnExp env b) l
  | .table ks vs l => .table (rnExps env ks) (rnExps env vs) l
  | .func f => .func (rnFunc env f)
  | .parens e l => .parens (rnExp env e) l
  | .index p k l => .index (rnExp env p) (rnExp env k) l
  | .call p m args l => .call (rnExp env p) m (rnExps env args) l
  | e => e
def rnExps (env : Env) : List Exp → List Exp
  | [] => []
  | e :: r => rnExp env e :: rnExps env r
def rnFunc (env : Env) : FuncBody → FuncBody
  | .mk cls fn ps va colon body l => .mk cls fn (rnParams d n' ps) va colon (rnBlock (pushParams env ps) body) l
def rnBlock (env : Env) : Block → Block
  | .mk stats ret l =>
    .mk (rnStats env stats) (match ret with | some es => some (rnExps (bStats false env stats).2 es) | none => none) l
def rnStats (env : Env) : List Stat → List Stat
  | [] => []
  | st :: r => rnStat env st :: rnStats (bStat false env st).2 r
def rnBlocks (env : Env) : List Block → List Block
  | [] => []
  | b :: r => rnBlock env b :: rnBlocks env r
def rnStat (env : Env) : Stat → Stat
  | .do_ b l => .do_ (rnBlock env b) l
  | .while_ c b l => .while_ (rnExp env c) (rnBlock env b) l
  | .repeat_ b c l => .repeat_ (rnBlock env b) (rnExp (bBlock false env b).2 c) l
  | .if_ cs bs e l => .if_ (rnExps env cs) (rnBlocks env bs) e l
  | .fornum v vl i lim st b l =>
    .fornum (rnDecl d n' v vl) vl (rnExp env i) (rnExp env lim) (rnExp env st) (rnBlock ((v, vl) :: env) b) l
  | .forin ns es b l => .forin (rnParams d n' ns) (rnExps env es) (rnBlock (pushParams env ns) b) l
  | .assign vars exps l => .assign (rnExps env vars) (rnExps env exps) l
  | .local_ names exps l => .local_ (rnNames d n' names) (rnExps env exps) l
  | .localfn n nl f l => .localfn (rnDecl d n' n nl) nl (rnFunc ((n, nl) :: env) f) l
  | .callstat e => .callstat (rnExp env e)
  | s => s
end

mutual
def frExp : Exp → Bool
  | .name x _ => x != n'
  | .unop _ e _ => frExp e
  | .binop _ a b _ => frExp a && frExp b
  | .table ks vs _ => frExps ks && frExps vs
  | .func f => frFunc f
  | .parens e _ => frExp e
  | .index p k _ => frExp p && frExp k
  | .call p _ args _ => frExp p && frExps args
  | _ => true
def frExps : List Exp → Bool
  | [] => true
  | e :: r => frExp e && frExps r
def frFunc : FuncBody → Bool
  | .mk _ _ ps _ _ body _ => ps.all (fun p => p.1 != n') && frBlock body
def frBlock : Block → Bool
  | .mk stats ret _ => frStats stats && (match ret with | some es => frExps es | none => true)
def frStats : List Stat → Bool
  | [] => true
  | s :: r => frStat s && frStats r
def frBlocks : List Block → Bool
  | [] => true
  | b :: r => frBlock b && frBlocks r
def frStat : Stat → Bool
  | .do_ b _ => frBlock b
  | .while_ c b _ => frExp c && frBlock b
  | .repeat_ b c _ => frBlock b && frExp c
  | .if_ cs bs _ _ => frExps cs && frBlocks bs
  | .fornum v _ i lim st b _ => v != n' && frExp i && frExp lim && frExp st && frBlock b
  | .forin ns es b _ => ns.all (fun p => p.1 != n') && frExps es && frBlock b
  | .assign vars exps _ => frExps vars && frExps exps
  | .local_ names exps _ => names.all (fun p => p.1 != n') && frExps exps
  | .localfn n _ f _ => n != n' && frFunc f
  | .callstat e => frExp e
  | _ => true
end

def FreshEnv (env : Env) : Prop := ∀ p ∈ env, p.1 ≠ n'

theorem renEnv_cons (x : Bytes) (l : Loc) (env : Env) :
    renEnv d n' ((x, l) :: env) = (rnDecl d n' x l, l) :: renEnv d n' env := rfl

/-- parameters and local names are pushed one by one: the last one ends up innermost -/
theorem pushParams_eq (env : Env) (ps : List (Bytes × Loc)) : pushParams env ps = ps.reverse ++ env := by
  induction ps generalizing env with
  | nil => rfl
  | cons p r ih => rw [pushParams, ih, List.reverse_cons, List.append_assoc]; rfl

theorem pushNames_eq (env : Env) (ns : List (Bytes × Loc × Nat)) :
    pushNames env ns = (ns.map fun p => (p.1, p.2.1)).reverse ++ env := by
  induction ns generalizing env with
  | nil => rfl
  | cons p r ih => rw [pushNames, ih, List.map_cons, List.reverse_cons, List.append_assoc]; rfl

theorem pushParams_ren (ps : List (Bytes × Loc)) (env : Env) :
    pushParams (renEnv d n' env) (rnParams d n' ps) = renEnv d n' (pushParams env ps) := by
  simp [pushParams_eq, renEnv, rnParams]

theorem pushNames_ren (ns : List (Bytes × Loc × Nat)) (env : Env) :
    pushNames (renEnv d n' env) (rnNames d n' ns) = renEnv d n' (pushNames env ns) := by
  simp [pushNames_eq, renEnv, rnNames]

theorem fresh_cons (x : Bytes) (l : Loc) (env : Env) (hx : x ≠ n') (h : FreshEnv n' env) : FreshEnv n' ((x, l) :: env) :=
  List.forall_mem_cons.2 ⟨hx, h⟩

theorem fresh_pushParams (ps : List (Bytes × Loc)) (env : Env) (hps : ps.all (fun p => p.1 != n') = true)
    (h : FreshEnv n' env) : FreshEnv n' (pushParams env ps) := by
  intro p hp
  rw [pushParams_eq, List.mem_append, List.mem_reverse] at hp
  exact hp.elim (fun hp => by simpa using List.all_eq_true.1 hps p hp) (h p)

theorem fresh_pushNames (ns : List (Bytes × Loc × Nat)) (env : Env) (hns : ns.all (fun p => p.1 != n') = true)
    (h : FreshEnv n' env) : FreshEnv n' (pushNames env ns) := by
  intro p hp
  rw [pushNames_eq, List.mem_append, List.mem_reverse, List.mem_map] at hp
  rcases hp with ⟨q, hq, rfl⟩ | hp
  · simpa using List.all_eq_true.1 hns q hq
  · exact h p hp

/-- a use keeps its binding -/
theorem core_use (env : Env) (x : Bytes) (l : Loc) (w : Bool) (hx : x ≠ n') (hf : FreshEnv n' env) :
    core (use (renEnv d n' env) (rnName d n' env x) l w) = core (use env x l w) := by
  simp only [core, use]
  rw [lookup_renEnv d n' env x hx hf]

theorem core_params (ps : List (Bytes × Loc)) (rg : Loc) (dk : String) :
    ((rnParams d n' ps).map (fun p => declOcc p.1 p.2 rg dk)).map core = (ps.map (fun p => declOcc p.1 p.2 rg dk)).map core := by
  simp [rnParams, core, declOcc]

theorem rnExps_length (env : Env) (es : List Exp) : (rnExps d n' env es).length = es.length := by
  induction es with
  | nil => rfl
  | cons e r ih => simp [rnExps, ih]

/-- what `core` keeps of the declarations of a `local` statement depends neither on the spellings nor on the initialisers -/
theorem core_localDecls_eq (sl : Loc) (names : List (Bytes × Loc × Nat)) (es : List Exp) :
    (localDecls sl names es).map core = names.map fun p => (p.2.1, some p.2.1, true, false) := by
  induction names generalizing es with
  | nil => rfl
  | cons p r ih => cases es <;> simp [localDecls, core, declOcc, ih]

theorem core_localDecls (sl : Loc) (names : List (Bytes × Loc × Nat)) (es es' : List Exp) (hl : es'.length = es.length) :
    (localDecls sl (rnNames d n' names) es').map core = (localDecls sl names es).map core := by
  simp [core_localDecls_eq, rnNames]

theorem bTargets_cons (env : Env) (exps : List Exp) (i : Nat) (v : Exp) (r : List Exp) :
    bTargets false env exps i (v :: r) =
      (match v with
       | .name x l => [{ use env x l true with init := initAt exps i }]
       | v => bExp false env v) ++ bTargets false env exps (i + 1) r := by
  cases v <;> rfl

mutual
theorem aExp : (e : Exp) → (env : Env) → frExp n' e = true → FreshEnv n' env →
    (bExp false (renEnv d n' env) (rnExp d n' env e)).map core = (bExp false env e).map core
  | .name x l, env, h, hf => by
    simp only [frExp, bne_iff_ne, ne_eq] at h
    simp only [rnExp, bExp, List.map, core_use d n' env x l false h hf]
  | .noKey, _, _, _ | .nil _, _, _, _ | .tru _, _, _, _ | .fls _, _, _, _ | .vararg _, _, _, _ | .int _ _, _, _, _
  | .flt _ _, _, _, _ | .str _ _, _, _, _ | .bad _, _, _, _ => rfl
  | .unop _ e _, env, h, hf | .parens e _, env, h, hf => aExp e env h hf
  | .func f, env, h, hf => aFunc f env h hf
  | .binop _ a b _, env, h, hf | .index a b _, env, h, hf => by
    simp only [frExp, Bool.and_eq_true] at h
    simp only [rnExp, bExp, List.map_append, aExp a env h.1 hf, aExp b env h.2 hf]
  | .table ks vs _, env, h, hf => by
    simp only [frExp, Bool.and_eq_true] at h
    simp only [rnExp, bExp, List.map_append, aExps ks env h.1 hf, aExps vs env h.2 hf]
  | .call p _ args _, env, h, hf => by
    simp only [frExp, Bool.and_eq_true] at h
    simp only [rnExp, bExp, List.map_append, aExp p env h.1 hf, aExps args env h.2 hf]
theorem aExps : (es : List Exp) → (env : Env) → frExps n' es = true → FreshEnv n' env →
    (bExps false (renEnv d n' env) (rnExps d n' env es)).map core = (bExps false env es).map core
  | [], _, _, _ => rfl
  | e :: r, env, h, hf => by
    simp only [frExps, Bool.and_eq_true] at h
    simp only [rnExps, bExps, List.map_append, aExp e env h.1 hf, aExps r env h.2 hf]
theorem aFunc : (f : FuncBody) → (env : Env) → frFunc n' f = true → FreshEnv n' env →
    (bFunc false (renEnv d n' env) (rnFunc d n' env f)).map core = (bFunc false env f).map core
  | .mk _ _ ps _ _ body _, env, h, hf => by
    simp only [frFunc, Bool.and_eq_true] at h
    have hb := aBlock body (pushParams env ps) h.2 (fresh_pushParams n' ps env h.1 hf)
    simp only [rnFunc, bFunc, List.map_append, pushParams_ren, hb.1, core_params]
theorem aBlock : (b : Block) → (env : Env) → frBlock n' b = true → FreshEnv n' env →
    ((bBlock false (renEnv d n' env) (rnBlock d n' env b)).1.map core = (bBlock false env b).1.map core ∧
     (bBlock false (renEnv d n' env) (rnBlock d n' env b)).2 = renEnv d n' (bBlock false env b).2 ∧
     FreshEnv n' (bBlock false env b).2)
  | .mk stats none _, env, h, hf => by
    simp only [frBlock, Bool.and_eq_true] at h
    exact aStats stats env h.1 hf
  | .mk stats (some es) _, env, h, hf => by
    simp only [frBlock, Bool.and_eq_true] at h
    have hs := aStats stats env h.1 hf
    refine ⟨?_, hs.2.1, hs.2.2⟩
    simp only [rnBlock, bBlock, List.map_append, hs.1, hs.2.1, aExps es _ h.2 hs.2.2]
theorem aStats : (ss : List Stat) → (env : Env) → frStats n' ss = true → FreshEnv n' env →
    ((bStats false (renEnv d n' env) (rnStats d n' env ss)).1.map core = (bStats false env ss).1.map core ∧
     (bStats false (renEnv d n' env) (rnStats d n' env ss)).2 = renEnv d n' (bStats false env ss).2 ∧
     FreshEnv n' (bStats false env ss).2)
  | [], _, _, hf => ⟨rfl, rfl, hf⟩
  | st :: r, env, h, hf => by
    simp only [frStats, Bool.and_eq_true] at h
    have h1 := aStat st env h.1 hf
    have h2 := aStats r _ h.2 h1.2.2
    simp only [rnStats, bStats, List.map_append, h1.1, h1.2.1]
    exact ⟨by rw [h2.1], h2.2.1, h2.2.2⟩
theorem aBlocks : (bs : List Block) → (env : Env) → frBlocks n' bs = true → FreshEnv n' env →
    (bBlocks false (renEnv d n' env) (rnBlocks d n' env bs)).map core = (bBlocks false env bs).map core
  | [], _, _, _ => rfl
  | b :: r, env, h, hf => by
    simp only [frBlocks, Bool.and_eq_true] at h
    simp only [rnBlocks, bBlocks, List.map_append, (aBlock b env h.1 hf).1, aBlocks r env h.2 hf]
theorem aStat : (st : Stat) → (env : Env) → frStat n' st = true → FreshEnv n' env →
    ((bStat false (renEnv d n' env) (rnStat d n' env st)).1.map core = (bStat false env st).1.map core ∧
     (bStat false (renEnv d n' env) (rnStat d n' env st)).2 = renEnv d n' (bStat false env st).2 ∧
     FreshEnv n' (bStat false env st).2)
  | .brk, _, _, hf | .label _ _, _, _, hf | .goto_ _ _, _, _, hf => ⟨rfl, rfl, hf⟩
  | .do_ b _, env, h, hf => ⟨(aBlock b env h hf).1, rfl, hf⟩
  | .callstat e, env, h, hf => ⟨aExp e env h hf, rfl, hf⟩
  | .while_ c b _, env, h, hf => by
    simp only [frStat, Bool.and_eq_true] at h
    refine ⟨?_, rfl, hf⟩
    simp only [rnStat, bStat, List.map_append, aExp c env h.1 hf, (aBlock b env h.2 hf).1]
  | .repeat_ b c _, env, h, hf => by
    simp only [frStat, Bool.and_eq_true] at h
    have hb := aBlock b env h.1 hf
    refine ⟨?_, rfl, hf⟩
    simp only [rnStat, bStat, List.map_append, hb.1, hb.2.1, aExp c _ h.2 hb.2.2]
  | .if_ cs bs _ _, env, h, hf => by
    simp only [frStat, Bool.and_eq_true] at h
    refine ⟨?_, rfl, hf⟩
    simp only [rnStat, bStat, List.map_append, aExps cs env h.1 hf, aBlocks bs env h.2 hf]
  | .fornum v vl i lim st b _, env, h, hf => by
    simp only [frStat, Bool.and_eq_true, bne_iff_ne, ne_eq] at h
    have hb := aBlock b ((v, vl) :: env) h.2 (fresh_cons n' v vl env h.1.1.1.1 hf)
    refine ⟨?_, rfl, hf⟩
    simp only [rnStat, bStat, List.map_append, aExp i env h.1.1.1.2 hf, aExp lim env h.1.1.2 hf, aExp st env h.1.2 hf,
      ← renEnv_cons, hb.1]
    rfl
  | .forin ns es b _, env, h, hf => by
    simp only [frStat, Bool.and_eq_true] at h
    have hb := aBlock b (pushParams env ns) h.2 (fresh_pushParams n' ns env h.1.1 hf)
    refine ⟨?_, rfl, hf⟩
    simp only [rnStat, bStat, List.map_append, aExps es env h.1.2 hf, pushParams_ren, hb.1]
    simp [rnParams, core, declOcc]
  | .assign vars exps _, env, h, hf => by
    simp only [frStat, Bool.and_eq_true] at h
    refine ⟨?_, rfl, hf⟩
    simp only [rnStat, bStat, List.map_append, aExps exps env h.2 hf, aTargets vars env exps _ 0 h.1 hf]
  | .local_ names exps sl, env, h, hf => by
    simp only [frStat, Bool.and_eq_true] at h
    refine ⟨?_, pushNames_ren d n' names env, fresh_pushNames n' names env h.1 hf⟩
    simp only [rnStat, bStat, List.map_append, aExps exps env h.2 hf,
      core_localDecls d n' sl names exps _ (rnExps_length d n' env exps)]
  | .localfn x xl f _, env, h, hf => by
    simp only [frStat, Bool.and_eq_true, bne_iff_ne, ne_eq] at h
    have hfe := fresh_cons n' x xl env h.1 hf
    refine ⟨?_, rfl, hfe⟩
    simp only [rnStat, bStat, List.map_append, ← renEnv_cons, aFunc f _ h.2 hfe]
    rfl
theorem aTargets : (vars : List Exp) → (env : Env) → (exps exps' : List Exp) → (i : Nat) →
    frExps n' vars = true → FreshEnv n' env →
    (bTargets false (renEnv d n' env) exps' i (rnExps d n' env vars)).map core = (bTargets false env exps i vars).map core
  | [], _, _, _, _, _, _ => rfl
  | v :: r, env, exps, exps', i, h, hf => by
    simp only [frExps, Bool.and_eq_true] at h
    have hv := aExp v env h.1 hf
    simp only [rnExps, bTargets_cons, List.map_append, aTargets r env exps exps' (i + 1) h.2 hf]
    congr 1
    -- a bare name is a write occurrence, whose `init` is not part of `core`; anything else is an expression
    cases v with
    | name x l => exact congrArg (fun c => [c]) (core_use d n' env x l true (by simpa [frExp] using h.1) hf)
    | _ => exact hv
end

/-- ALPHA-RENAMING: renaming the local declared at `d` to a name that occurs nowhere in the chunk leaves
    every occurrence bound to the declaration it was bound to (same occurrences, same declaration
    Locs, same declaration / write flags) -/
theorem alpha_rename (b : Block) (h : frBlock n' b = true) :
    (bindChunk (rnBlock d n' [] b)).map core = (bindChunk b).map core := by
  unfold bindChunk
  have := (aBlock d n' b [] h (by intro p hp; cases hp)).1
  simpa [renEnv] using this

#print axioms alpha_rename

/-- premises satisfiable and the renaming non-trivial: `local x = 1; print(x)` with x ↦ z:
    the use is re-spelled z, the new name is fresh, and a use of another variable is left alone -/
example :
    let dx : Loc := ⟨1, 6, 1, 7⟩
    frBlock [122] (.mk [.local_ [([120], dx, 0)] [.int 1 ⟨1, 10, 1, 11⟩] ⟨1, 0, 1, 11⟩,
                         .callstat (.call (.name [112] ⟨2, 0, 2, 5⟩) none [.name [120] ⟨2, 6, 2, 7⟩] ⟨2, 0, 2, 8⟩)] none ⟨1, 0, 2, 8⟩) = true ∧
    rnExp dx [122] [([120], dx)] (.name [120] ⟨2, 6, 2, 7⟩) = .name [122] ⟨2, 6, 2, 7⟩ ∧
    rnExp dx [122] [([120], dx)] (.name [112] ⟨2, 0, 2, 5⟩) = .name [112] ⟨2, 0, 2, 5⟩ :=
  ⟨rfl, rfl, rfl⟩

end LuaHelper.C11
