/-
C17 — "Each configuration switch silences exactly the diagnostics it names".
Model: Model/Conf.lean (global_conf.go handleNotJSONCheckFlag / ReadConfig ignore part /
IsIgnoreErrorFile / IsSpecialCheck, file_result.go InsertRelateError); spec: Spec/Conf.lean.
Tables `Gen.*` are regenerated from /repo on every run.
-/
import LuaHelper.Model.Conf
import LuaHelper.Spec.Conf
import LuaHelper.Gen.Flags
import LuaHelper.Gen.Gates
import LuaHelper.Gen.Sites
import LuaHelper.Proofs.Basic
namespace LuaHelper.C17
open LuaHelper.Conf LuaHelper.ConfSpec

/-- the documented switches are listed in the order of their types, 1 to 25 -/
theorem switch_types : switchOf.map (·.1) = List.range' 1 25 := rfl
theorem switch_types_nodup : (switchOf.map (·.1)).Nodup := switch_types ▸ List.nodup_range'

/-- the flag list is the master switch followed by the documented switches in that order -/
theorem flag_fields : Gen.initFlagFields = "AllEnable" :: switchOf.map (·.2.1) := rfl

/-- the Go constants of the documented switches are the first 25 of err_info.go, with the documented values -/
theorem switch_consts : switchOf.map (fun e => (e.2.2, e.1)) = Gen.errTypes.take 25 := rfl

/-- The positional flag lists built for `initialize` and for `didChangeConfiguration` are the same
    list, slot 0 is the master switch, and slot `t` is the documented switch of diagnostic type `t`
    whose Go constant has value `t`, for every t = 1..25. -/
theorem flag_table :
    Gen.initFlagFields = Gen.changeFlagFields ∧
    Gen.initFlagFields.length = 26 ∧
    Gen.initFlagFields[0]? = some "AllEnable" ∧
    (∀ e ∈ switchOf, Gen.initFlagFields[e.1]? = some e.2.1 ∧ (e.2.2, e.1) ∈ Gen.errTypes) ∧
    switchOf.map (·.1) = (List.range 26).filter (· ≥ 1) := by
  refine ⟨rfl, rfl, rfl, fun e he => ⟨?_, ?_⟩, rfl⟩
  · rw [flag_fields]; exact Lists.slot_of_keys_range switch_types (·.2.1) _ he
  · exact List.mem_of_mem_take (switch_consts ▸ List.mem_map_of_mem (f := fun e : Nat × String × String => (e.2.2, e.1)) he)
#print axioms flag_table

/-- every client flag is a JSON field of `initializationOptions` under its own name -/
theorem flag_json_names : ∀ f ∈ Gen.initFlagFields, (f, f) ∈ Gen.initOptionJson := by
  -- Evaluating a string comparison makes the kernel unpack both literals to their bytes. These sweeps over the tables
  -- therefore go through the list lemmas: `true_or` / `or_true` need only the comparisons that hold, and those hold by `rfl`.
  simp only [Gen.initFlagFields, List.forall_mem_cons]
  simp only [Gen.initOptionJson, List.mem_cons, true_or, or_true, and_self, List.not_mem_nil, false_imp_iff, implies_true]
#print axioms flag_json_names

/-- the two type loops of handleNotJSONCheckFlag run over 1 ≤ i < CheckErrorMax = 30 -/
theorem flag_loop_bounds :
    Gen.flagLoopBounds = ["CheckErrorSyntax<CheckErrorMax", "CheckErrorSyntax<CheckErrorMax"] ∧
    ("CheckErrorSyntax", 1) ∈ Gen.errTypes ∧ ("CheckErrorMax", errMax) ∈ Gen.errTypes :=
  ⟨rfl, List.mem_of_getElem? (i := 0) rfl, List.mem_of_getElem? (i := 29) rfl⟩
#print axioms flag_loop_bounds

/-- the recording choke point consults the configuration -/
theorem choke_point_guarded : Gen.chokeGuarded = true := by decide
#print axioms choke_point_guarded

/-- Every function that consults the configuration *before* producing diagnostics tests the type
    of the only diagnostics it produces — except the reviewed sites, where the test sits inside the
    function and guards only its own type (read in the source): cgBinopExp (float-eq branch only),
    cgAssignStat (self-assign branch only), checkLocVarCall (skips only if types 4 AND 17 are off). -/
def reviewedGateSites : List (String × String) :=
  [("check/analysis/analysis_exp.go", "cgBinopExp"), ("check/analysis/analysis_stat.go", "cgAssignStat"),
   ("check/analysis/analysis_check_loc_var.go", "checkLocVarCall")]

theorem gates_guard_own_type :
    ∀ g ∈ Gen.gateFuncs, (∀ t ∈ g.2.2.2, t ∈ g.2.2.1) ∨ (g.1, g.2.1) ∈ reviewedGateSites := by
  simp only [Gen.gateFuncs, reviewedGateSites, List.mem_cons, true_or, or_true, and_self, List.not_mem_nil,
    false_imp_iff, implies_true, forall_eq_or_imp, and_true]
#print axioms gates_guard_own_type

theorem checkLocVarCall_gate :
    ("check/analysis/analysis_check_loc_var.go", "checkLocVarCall",
      ["CheckErrorLocalNoUse", "CheckErrorNoUseAssign"], ["CheckErrorLocalNoUse", "CheckErrorNoUseAssign"])
      ∈ Gen.gateFuncs := by
  simp only [Gen.gateFuncs, List.mem_cons, true_or, or_true]
#print axioms checkLocVarCall_gate

theorem mem_range_filter (n ty : Nat) (p : Nat → Bool) :
    ((List.range n).filter p).contains ty = (decide (ty < n) && p ty) := by
  rw [Bool.eq_iff_iff]
  simp only [List.contains_iff_mem, List.mem_filter, List.mem_range, Bool.and_eq_true, decide_eq_true_eq]
#print axioms mem_range_filter

/-- `handleNotJSONCheckFlag` with the master switch on ignores type `ty` (1 ≤ ty ≤ 25) iff the flag
    in slot `ty` is off. -/
theorem ignore_map_from_flags (prev : Conf) (flags : List Bool) (pats : List String) (ty : Nat)
    (hlen : flags.length = 26) (hm : flags[0]? = some true) (h1 : 1 ≤ ty) (h25 : ty ≤ 25) :
    (fromFlags prev flags pats).ignoreTypes.contains ty = !(flags.getD ty true) := by
  cases flags with
  | nil => cases hlen
  | cons m rest =>
    cases Option.some.inj hm
    have h30 : ty < errMax := Nat.lt_of_le_of_lt h25 (by decide)
    have hgt : ¬ rest.length < ty := by rw [List.length_cons] at hlen; omega
    simp only [fromFlags, Bool.not_true, Bool.false_eq_true, if_false]
    rw [mem_range_filter]
    simp [h30, h1, hgt]
#print axioms ignore_map_from_flags

theorem find_self : ∀ w ∈ switchOf, switchOf.find? (·.1 == w.1) = some w :=
  fun _ hw => Lists.find_key_of_nodup switch_types_nodup hw
#print axioms find_self
theorem switch_bounds : ∀ e ∈ switchOf, 1 ≤ e.1 ∧ e.1 ≤ 25 := fun e he => by
  have : e.1 ∈ List.range' 1 25 := switch_types ▸ List.mem_map_of_mem he
  rw [List.mem_range'_1] at this
  omega
#print axioms switch_bounds
theorem flag_fields_nodup : Gen.initFlagFields.Nodup := by simp [Gen.initFlagFields]

theorem switch_not_master : ∀ e ∈ switchOf, e.2.1 ≠ "AllEnable" := fun _ he h =>
  (List.nodup_cons.1 (flag_fields ▸ flag_fields_nodup)).1 (h ▸ List.mem_map_of_mem he)
#print axioms switch_not_master

/-- the flags list the Go code builds from the client settings -/
def flagsOf (s : Settings) : List Bool := Gen.initFlagFields.map s.val

theorem any_partition (l : List String) (p q : String → Bool) :
    ((l.filter (fun x => !q x) ++ ["server/meta"]).any p || (l.filter q).any p) =
      (l ++ ["server/meta"]).any p := by
  induction l with
  | nil => simp
  | cons a r ih =>
    -- `a` goes to one of the two filters; the sides then differ in the order of the disjuncts
    rw [List.cons_append, List.any_cons, ← ih]
    cases hq : q a <;> simp [hq, Bool.or_assoc, Bool.or_left_comm]
#print axioms any_partition

/-- `IsIgnoreErrorFile` for a configuration whose directory and file patterns were split from one pattern list
    (as both `handleNotJSONCheckFlag` and `ReadConfig` do) and that has no per-file type rules -/
theorem isIgnored_of_split (c : Conf) (pats : List String) (rx : String → String → Bool) (file : String) (ty : Nat)
    (hd : c.errDirs = pats.filter (fun p => !isLuaSuffix p) ++ ["server/meta"])
    (hf : c.errFiles = pats.filter isLuaSuffix) (hr : c.fileTypeRules = []) :
    isIgnored c rx file ty =
      (!c.showWarn || c.ignoreTypes.contains ty || (pats ++ ["server/meta"]).any (patMatch rx file)) := by
  rw [isIgnored, hd, hf, hr, List.any_nil, Bool.or_false, Bool.or_assoc, any_partition]

theorem fromFlags_patterns (prev : Conf) (flags : List Bool) (pats : List String) :
    (fromFlags prev flags pats).errDirs = pats.filter (fun p => !isLuaSuffix p) ++ ["server/meta"] ∧
    (fromFlags prev flags pats).errFiles = pats.filter isLuaSuffix ∧
    (fromFlags prev flags pats).fileTypeRules = prev.fileTypeRules := by
  rcases flags with _ | ⟨_ | _, _⟩ <;> exact ⟨rfl, rfl, rfl⟩

/-- `ShowWarnFlag` is the master switch -/
theorem showWarn_flagsOf (s : Settings) (prev : Conf) :
    (fromFlags prev (flagsOf s) s.ignoreErr).showWarn = s.val "AllEnable" := by
  rw [show flagsOf s = s.val "AllEnable" :: _ from rfl]
  cases s.val "AllEnable" <;> rfl

theorem switch_of_type (ty : Nat) (h1 : 1 ≤ ty) (h25 : ty ≤ 25) :
    ∃ fld c, (ty, fld, c) ∈ switchOf ∧ switchOf.find? (·.1 == ty) = some (ty, fld, c) := by
  have hmem : ty ∈ switchOf.map (·.1) := by rw [switch_types]; exact List.mem_range'_1.2 ⟨h1, by omega⟩
  obtain ⟨⟨_, fld, c⟩, he, rfl⟩ := List.mem_map.1 hmem
  exact ⟨fld, c, he, find_self _ he⟩

/-- with the master switch on, `handleNotJSONCheckFlag` ignores a documented type iff its switch is off -/
theorem ignored_iff_switch_off (s : Settings) (prev : Conf) {ty : Nat} {fld c : String}
    (hsw : (ty, fld, c) ∈ switchOf) (hm : s.val "AllEnable" = true) :
    (fromFlags prev (flagsOf s) s.ignoreErr).ignoreTypes.contains ty = !s.val fld := by
  obtain ⟨h1, h25⟩ := switch_bounds _ hsw
  have hlen : (flagsOf s).length = 26 := by rw [flagsOf, List.length_map]; rfl
  have h0 : (flagsOf s)[0]? = some true := by rw [flagsOf, List.getElem?_map, ← hm]; rfl
  rw [ignore_map_from_flags prev (flagsOf s) s.ignoreErr ty hlen h0 h1 h25, List.getD_eq_getElem?_getD, flagsOf,
    List.getElem?_map, (flag_table.2.2.2.1 _ hsw).1]
  rfl

/-- the two fields of the configuration that speak about a type, against the two switches that do -/
theorem type_off_iff (s : Settings) (prev : Conf) {ty : Nat} {fld c : String} (hsw : (ty, fld, c) ∈ switchOf) :
    (!(fromFlags prev (flagsOf s) s.ignoreErr).showWarn ||
      (fromFlags prev (flagsOf s) s.ignoreErr).ignoreTypes.contains ty) = !(s.val "AllEnable" && s.val fld) := by
  rw [showWarn_flagsOf]
  cases hm : s.val "AllEnable"
  · rfl
  · rw [ignored_iff_switch_off s prev hsw hm]; rfl

/-- **Main theorem (client settings).** For every assignment of the 26 switches, every ignore
    pattern list, every file and every diagnostic type 1..25: the diagnostic is dropped at the choke
    point iff the documented semantics says it is not shown. -/
theorem flags_exact (s : Settings) (prev : Conf) (rx : String → String → Bool) (file : String)
    (ty : Nat) (h1 : 1 ≤ ty) (h25 : ty ≤ 25) (hprev : prev.fileTypeRules = []) :
    isIgnored (fromFlags prev (flagsOf s) s.ignoreErr) rx file ty = !shown s rx file ty := by
  obtain ⟨fld, c, hsw, hfind⟩ := switch_of_type ty h1 h25
  obtain ⟨hd, hf, hr⟩ := fromFlags_patterns prev (flagsOf s) s.ignoreErr
  rw [isIgnored_of_split _ _ rx file ty hd hf (hr.trans hprev), type_off_iff s prev hsw]
  simp only [shown, hfind, Bool.not_and, Bool.not_not]
#print axioms flags_exact

/-- What is recorded under settings `s` is exactly the documented filter of the candidates. -/
theorem filter_exact (s : Settings) (prev : Conf) (rx : String → String → Bool) (cands : List Cand)
    (hty : ∀ e ∈ cands, 1 ≤ e.ty ∧ e.ty ≤ 25) (hprev : prev.fileTypeRules = []) :
    recorded (fromFlags prev (flagsOf s) s.ignoreErr) rx cands =
      cands.filter (fun e => shown s rx e.file e.ty) := by
  unfold recorded
  apply List.filter_congr
  intro e he
  obtain ⟨h1, h25⟩ := hty e he
  rw [flags_exact s prev rx e.file e.ty h1 h25 hprev]
  simp
#print axioms filter_exact

theorem switch_fields_nodup : (switchOf.map (·.2.1)).Nodup :=
  (List.nodup_cons.1 (flag_fields ▸ flag_fields_nodup)).2

/-- "turning off one check type removes exactly that type's diagnostics and changes nothing else" -/
theorem switch_off_exact (s : Settings) (prev : Conf) (rx : String → String → Bool) (cands : List Cand)
    (hty : ∀ e ∈ cands, 1 ≤ e.ty ∧ e.ty ≤ 25) (hprev : prev.fileTypeRules = [])
    (t : Nat) (fld c : String) (hsw : (t, fld, c) ∈ switchOf) :
    let s' : Settings := { s with val := fun f => if f = fld then false else s.val f }
    recorded (fromFlags prev (flagsOf s') s'.ignoreErr) rx cands =
      (recorded (fromFlags prev (flagsOf s) s.ignoreErr) rx cands).filter (fun e => e.ty != t) := by
  intro s'
  rw [filter_exact s' prev rx cands hty hprev, filter_exact s prev rx cands hty hprev, List.filter_filter]
  apply List.filter_congr
  intro e he
  obtain ⟨f, c', hw, hfind⟩ := switch_of_type e.ty (hty e he).1 (hty e he).2
  -- the switch of e.ty is fld iff e.ty = t: types and switches determine each other
  have hiff : f = fld ↔ e.ty = t :=
    ⟨fun h => congrArg (·.1) (Lists.eq_of_nodup_map switch_fields_nodup hw hsw h),
     fun h => congrArg (·.2.1) (Lists.eq_of_nodup_map switch_types_nodup hw hsw h)⟩
  have hmaster : ("AllEnable" = fld) = False := eq_false (switch_not_master _ hsw).symm
  simp only [shown, hfind, s', hmaster, if_false]
  by_cases h : e.ty = t <;> simp [h, hiff.2, mt hiff.1]
#print axioms switch_off_exact

/-- "the master switch removes all" -/
theorem master_off_removes_all (s : Settings) (prev : Conf) (rx : String → String → Bool)
    (cands : List Cand) (hty : ∀ e ∈ cands, 1 ≤ e.ty ∧ e.ty ≤ 25) (hprev : prev.fileTypeRules = [])
    (hoff : s.val "AllEnable" = false) :
    recorded (fromFlags prev (flagsOf s) s.ignoreErr) rx cands = [] := by
  rw [filter_exact s prev rx cands hty hprev]
  simp [shown, hoff]
#print axioms master_off_removes_all

/-- luahelper.json and the client flags build the same decision: `IgnoreErrorTypes` = the types
    whose switch is off, `IgnoreFileErr` = the ignore patterns, `ShowWarnFlag` = master. -/
theorem json_equiv (s : Settings) (prev : Conf) (rx : String → String → Bool) (file : String) (ty : Nat)
    (h1 : 1 ≤ ty) (h25 : ty ≤ 25) (hprev : prev.fileTypeRules = []) :
    let offTypes := (switchOf.filter (fun e => !s.val e.2.1)).map (·.1)
    isIgnored (fromJson (if s.val "AllEnable" then 1 else 0) offTypes s.ignoreErr []) rx file ty =
      isIgnored (fromFlags prev (flagsOf s) s.ignoreErr) rx file ty := by
  intro offTypes
  obtain ⟨fld, c, hsw, hfind⟩ := switch_of_type ty h1 h25
  have hoff : offTypes.contains ty = !s.val fld := by
    rw [Bool.eq_iff_iff]
    simp only [offTypes, List.contains_iff_mem, List.mem_map, List.mem_filter]
    constructor
    · rintro ⟨a, ⟨ha, hva⟩, hat⟩
      rwa [Lists.eq_of_nodup_map switch_types_nodup ha hsw hat] at hva
    · exact fun hv => ⟨_, ⟨hsw, hv⟩, rfl⟩
  rw [flags_exact s prev rx file ty h1 h25 hprev, isIgnored_of_split _ s.ignoreErr rx file ty rfl rfl rfl]
  simp only [shown, hfind, fromJson, hoff]
  cases s.val "AllEnable" <;> cases s.val fld <;> simp
#print axioms json_equiv

/-- numeric values of the types listed in IsSpecialCheck (regenerated from the Go source): the six types the
    cross-file pass produces, goto-label included since the repair -/
theorem special_types :
    Gen.specialCheckTypes.map (fun n => (Gen.errTypes.find? (·.1 == n)).map (·.2)) =
      ConfSpec.specialTypes.map some := by decide +kernel
#print axioms special_types

/-- the cross-file pass is skipped (`IsSpecialCheck` false) exactly when the master switch is off or the switches
    of all six cross-file types are off -/
theorem special_gate (s : Settings) (prev : Conf) :
    isSpecialCheck (fromFlags prev (flagsOf s) s.ignoreErr) ConfSpec.specialTypes =
      (s.val "AllEnable" && !specialOff s) := by
  rw [isSpecialCheck, showWarn_flagsOf]
  cases hm : s.val "AllEnable"
  · rfl
  · have g : ∀ {ty fld c}, switchOf[ty - 1]? = some (ty, fld, c) →
        (fromFlags prev (flagsOf s) s.ignoreErr).ignoreTypes.contains ty = !s.val fld :=
      fun h => ignored_iff_switch_off s prev (List.mem_of_getElem? h) hm
    simp only [specialTypes, List.any_cons, List.any_nil, g (ty := 2) rfl, g (ty := 3) rfl, g (ty := 9) rfl,
      g (ty := 10) rfl, g (ty := 11) rfl, g (ty := 12) rfl, specialOff, hm]
    simp [Bool.or_assoc]
#print axioms special_gate

/-- whenever `IsSpecialCheck` is false for a list of types, each of them is ignored by the two fields
    `IsIgnoreErrorFile` looks at first -/
theorem off_of_gate_closed (c : Conf) (special : List Nat) (h : isSpecialCheck c special = false) :
    ∀ ty ∈ special, (!c.showWarn || c.ignoreTypes.contains ty) = true := by
  intro ty hty
  unfold isSpecialCheck at h
  cases hw : c.showWarn
  · rfl
  · rw [hw, Bool.true_and, List.any_eq_false] at h
    simpa using h ty hty

/-- skipping the pass loses nothing: whenever the gate is closed, no diagnostic of a cross-file type is to be shown
    for any file (the documented filter `shown` is false for all six types) — with type 9 missing from the list
    this failed for goto-label diagnostics (finding K1) -/
theorem special_gate_harmless (s : Settings) (prev : Conf) (rx : String → String → Bool) (file : String)
    (h : isSpecialCheck (fromFlags prev (flagsOf s) s.ignoreErr) ConfSpec.specialTypes = false) :
    ∀ ty ∈ ConfSpec.specialTypes, shown s rx file ty = false := by
  intro ty hty
  have hb : ∀ ty ∈ ConfSpec.specialTypes, 1 ≤ ty ∧ ty ≤ 25 := by decide
  obtain ⟨fld, c, hsw, hfind⟩ := switch_of_type ty (hb ty hty).1 (hb ty hty).2
  have hoff := off_of_gate_closed _ _ h ty hty
  rw [type_off_iff s prev hsw, Bool.not_eq_true'] at hoff
  simp only [shown, hfind, hoff, Bool.false_and]
#print axioms special_gate_harmless

/-! ### malformed settings (shared with C01): user-supplied patterns reach regexp.MustCompile -/

/-- no regexp.MustCompile call takes a pattern that is not a literal or built from literals and
    regexp.QuoteMeta(…): a configuration value can no longer make the server panic while compiling
    a pattern (before the repair a72bfd6 six such sites existed: former finding C17-K4). -/
theorem mustcompile_sites :
    Gen.mustCompileSites.filter (·.2.2 == "dynamic") = [] := by decide
#print axioms mustcompile_sites

example : flagsOf { val := fun f => f != "CheckLocalNoUse", ignoreErr := [] } =
    [true, true, true, true, false, true, true, true, true, true, true, true, true, true, true, true,
     true, true, true, true, true, true, true, true, true, true] := by decide +kernel

end LuaHelper.C17
