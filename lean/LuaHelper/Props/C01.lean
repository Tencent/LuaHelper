/-
C01 — "The server never crashes or hangs, whatever the workspace or the client sends".

A theorem cannot exhibit a Go panic or a runaway goroutine; what it can carry is
 (a) facts about the code regenerated on every run (Gen.Sites, go/ast extraction):
     * `recover_sites`: the panics the lexer / parser / annotation parser raise on malformed text are
       recovered exactly where the design says (BeginAnalyze, BeginAnalyzeExp, ParserLine) — removing
       one of them turns every syntax error into a process crash;
     * `no_dynamic_patterns`: no regexp.MustCompile call takes a pattern that is not a literal or
       literals + regexp.QuoteMeta(…) — a configuration string can no longer panic a handler
       (six such sites existed before the repair a72bfd6);
 (b) termination of the modelled algorithms, for ALL inputs:
     * `retry_terminates` (with `retry_decreases`): the retry loop of go-to-definition, as modelled by `retryStep`,
       ends (repair 90a73b5; `retry_looped_before` / `retry_fixed_now` are the two runs of the repaired case);
       `owner_lookup_shape` pins the statements of the Go loop the model is written after;
     * `makeVarIndex_range`: the variable index of a declaration list stays within 1..255 (repair 70cff17);
     * `lexLine_fuel`: the annotation-line lexer consumes at least one byte per token, so its result
       does not depend on fuel beyond the length of the line (no input makes it loop);
     * the class closure (C15 `closure`, total by construction — its termination proof is part of its
       definition) and the text model (C02) are total functions.
Everything else — that no request on any workspace panics or hangs — is searched, not proved: the
harness runs the real server in child processes on malformed text, annotation soup, cyclic
annotations, random configuration files, partial edits, deep nesting and file events, sweeping
positions with every request type, and reports the scenario that kills or stalls it.
-/
import LuaHelper.Model.Annot
import LuaHelper.Gen.Sites
import LuaHelper.Gen.Preds
import LuaHelper.Gen.Shapes
namespace LuaHelper.C01
open LuaHelper.Annot

theorem recover_sites :
    Gen.recoverSites =
      [("check/annotation/annotateparser/annotate_parser.go", "ParserLine", "recover"),
       ("check/compiler/parser/parser.go", "BeginAnalyze", "recover"),
       ("check/compiler/parser/parser.go", "BeginAnalyzeExp", "recover")] := by rfl
#print axioms recover_sites

theorem no_dynamic_patterns : Gen.mustCompileSites.all (fun s => s.2.2 != "dynamic") = true := by decide
#print axioms no_dynamic_patterns

abbrev Bytes := LuaHelper.Lex.Bytes

theorem dropWhile_len (p : UInt8 → Bool) (l : Bytes) : (l.dropWhile p).length ≤ l.length :=
  (List.dropWhile_sublist p).length_le

theorem scanStr_len (d : UInt8) (r : Bytes) : (scanStr d r).2.length ≤ r.length := by
  have h := dropWhile_len (· != d) r
  simp only [scanStr]
  split
  next heq => rw [heq] at h; exact Nat.le_of_succ_le h
  next => exact Nat.zero_le _

/-- every token that lets the lexer go on consumes at least one byte -/
theorem lexStep_len (c : Bytes) (t : Tok) (r : Bytes) (h : lexStep c = some (t, r, true)) : r.length < c.length := by
  revert h
  fun_cases lexStep c
  -- in every case the rest is the tail of `c`, or what `scanStr` / `dropWhile` leave of the tail
  all_goals (intro h; cases h)
  all_goals simp [Nat.lt_succ_iff, scanStr_len, dropWhile_len]

/-- with more fuel than bytes, extra fuel changes nothing: no input makes the lexer loop -/
theorem lexLine_fuel : ∀ (f : Nat) (chunk : Bytes), chunk.length < f → ∀ k, lexLine (f + k) chunk = lexLine f chunk := by
  intro f
  induction f with
  | zero => intro chunk h; omega
  | succ f ih =>
    intro chunk h k
    have hc := dropWhile_len isWs chunk
    rw [Nat.add_right_comm]
    unfold lexLine
    cases hs : lexStep (chunk.dropWhile isWs) with
    | none => rfl
    | some v =>
      obtain ⟨t, r, go⟩ := v
      cases go with
      | false => rfl
      | true =>
        have hl := lexStep_len _ t r hs
        exact congrArg ((t, r) :: ·) (ih r (by omega) k)
#print axioms lexLine_fuel

/-- the fuel `parseLine` passes (length + 1) is therefore enough for every line -/
theorem lexLine_enough (line : Bytes) (k : Nat) : lexLine (line.length + 1 + k) line = lexLine (line.length + 1) line :=
  lexLine_fuel (line.length + 1) line (by omega) k
#print axioms lexLine_enough

/-! ### the variable index of a declaration list (repair 70cff17) -/

/-- `common.MakeVarIndex` as it stands in /repo (translated on every run): for EVERY position the index it yields
    is between 1 and 255 — it never wraps to 0, the value with which `ReturnVarVec[index-1]` was indexed out of range
    for the 256th name of a list — and it is the position itself wherever a uint8 can hold it -/
theorem makeVarIndex_range (i : Int) :
    1 ≤ Gen.makeVarIndex i ∧ Gen.makeVarIndex i ≤ 255 ∧ (1 ≤ i → i ≤ 255 → Gen.makeVarIndex i = i) := by
  simp only [Gen.makeVarIndex, decide_eq_true_eq]
  omega
#print axioms makeVarIndex_range

/-- what the conversion it replaced did at position 256 (uint8 arithmetic): the index 0 -/
theorem old_varIndex_wraps : ((256 : Nat) % 256 = 0) ∧ (BitVec.ofNat 8 256 = 0#8) := by decide
#print axioms old_varIndex_wraps

/-! ### the retry loop of go-to-definition terminates (repair 90a73b5) -/

/-- the state of FindVarDefineInfo's retry loop that matters for termination: the length of the name chain and
    whether the owner of a table-constructor key has been put in front (DefineVarStruct.OwnerFlag) -/
structure RS where
  len : Nat
  owner : Bool
deriving DecidableEq, Repr

/-- one unsuccessful round: the owner lookup of getVarCommonFuncParam (it may put `ins` ≤ 2 names in front, only for a
    one-name chain and — since the repair — only once), then the chain is cut by one; `none` = the loop returns -/
def retryStep (ins : Nat) (s : RS) : Option RS :=
  let s1 : RS := if s.len == 1 && !s.owner && ins > 0 then { len := s.len + ins, owner := true } else s
  if s1.len - 1 == 0 then none else some { s1 with len := s1.len - 1 }

/-- the round as it was: the owner lookup ran in every round -/
def retryStepOld (ins : Nat) (s : RS) : Option RS :=
  let s1 : RS := if s.len == 1 && ins > 0 then { s with len := s.len + ins } else s
  if s1.len - 1 == 0 then none else some { s1 with len := s1.len - 1 }

def retryMeasure (s : RS) : Nat := 2 * s.len + (if s.owner then 0 else 5)

/-- every unsuccessful round makes the state strictly smaller, whatever the owner lookup finds -/
theorem retry_decreases (ins : Nat) (hi : ins ≤ 2) (s s' : RS) (h : retryStep ins s = some s') :
    retryMeasure s' < retryMeasure s := by
  unfold retryStep at h
  extract_lets s1 at h
  -- the owner lookup does not raise the measure: the names it puts in front cost at most 4, the flag it sets pays 5
  have h1 : retryMeasure s1 ≤ retryMeasure s := by
    unfold s1
    split
    · next hc =>
      simp only [Bool.and_eq_true, beq_iff_eq, Bool.not_eq_true', decide_eq_true_eq] at hc
      simp only [retryMeasure, hc.1.1, hc.1.2, Bool.false_eq_true, reduceIte]
      omega
    · exact Nat.le_refl _
  -- and where the loop goes on, the cut has lowered it
  refine Nat.lt_of_lt_of_le ?_ h1
  split at h
  · cases h
  · next hne =>
    cases h
    rw [beq_iff_eq] at hne
    simp only [retryMeasure]
    omega

/-- rounds with the owner lookups `inss` (one per round) -/
def retryRun : List Nat → RS → Option RS
  | [], s => some s
  | i :: r, s => match retryStep i s with
    | none => none
    | some s' => retryRun r s'

/-- the loop returns after at most `retryMeasure s` rounds, whatever the owner lookups find -/
theorem retry_terminates (inss : List Nat) (hi : ∀ i ∈ inss, i ≤ 2) (s : RS) (hl : retryMeasure s < inss.length) :
    retryRun inss s = none := by
  induction inss generalizing s with
  | nil => simp at hl
  | cons i r ih =>
    unfold retryRun
    cases h : retryStep i s with
    | none => rfl
    | some s' =>
      have hd := retry_decreases i (hi i List.mem_cons_self) s s' h
      rw [List.length_cons] at hl
      exact ih (fun j hj => hi j (List.mem_cons_of_mem i hj)) s' (by omega)

/-- as it was: on a one-name chain whose owner is found the round gives the same state back — `t = {t=1}` with another
    definition of t never returned -/
theorem retry_looped_before : retryStepOld 1 ⟨1, false⟩ = some ⟨1, false⟩ := by decide
theorem retry_fixed_now : retryRun [1, 1, 1] ⟨1, false⟩ = none := by decide
#print axioms retry_decreases
#print axioms retry_terminates
#print axioms retry_looped_before
#print axioms retry_fixed_now

/-- the guard and the mark of the owner lookup, and the cut of the retry loop, as they stand in /repo now (regenerated on
    every run): `retryStep` is written after them -/
theorem owner_lookup_shape :
    Gen.ownerLookup =
      ["subLen:len(varStruct.StrVec)-1", "cut:varStruct.StrVec[0:subLen]",
       "guard:len(varStruct.StrVec)==1&&!varStruct.BracketsFlag&&!varStruct.OwnerFlag", "sets:varStruct.OwnerFlag=true"] := by
  rfl
#print axioms owner_lookup_shape

end LuaHelper.C01
