/-
C18 — "Module paths resolve as documented, consistently across features".

Model: Model/Mod.lean (candidate tests + score of GetBestMatchReferFile, the order of attempts of
CheckReferFile for `require` and of go-to-definition on the string), tied to the code by running the
real GetBestMatchReferFile over a real FileIndexInfo and the real server on generated directory trees.
Proved here, for ALL file sets, workspace roots, requiring files and module strings:
 * `mem_best`, `best_*`: the selection is the set of candidates of greatest score, so it never invents a
   file (⊆ candidates), never drops all of them (non-empty iff candidates exist), and a single candidate
   is returned as it is;
 * `resolveRequire_sound`: whatever the analysis loads is a workspace file whose path matches;
 * `diag_iff_no_match`: "file not found" (empty result) ⇔ no file matches name.* nor name/init.lua;
 * `matchPre_eq_spec`, `matchInit_eq_spec`, `resolve_empty_iff_spec`: for workspaces without dotted
   file names in which the directories ABOVE the workspace root do not complete a match, the model's
   candidate tests are the documented mapping (name.lua under the module's directories, else
   name/init.lua), so the type-6 diagnostic appears exactly when the documented mapping finds nothing;
 * `pickMin_le`, `pickMin_order_independent`, `choose_mem_best`, `choose_none_iff`, `tie_resolved`: among
   equally ranked candidates the one with the smallest path is loaded (fix 79a7ee2), whatever order the
   candidates are visited in — the analysis and go-to-definition on the string agree, run after run.
-/
import LuaHelper.Model.Mod
import LuaHelper.Gen.Shapes
namespace LuaHelper.C18
open LuaHelper.Mod

/-- the code the model was written after, as it stands in /repo now (regenerated on every run): the
    order of look-ups in CheckReferFile (suffix mode: exact, fuzzy, report; full-path mode: .so, .lua,
    init.lua, report; default mode: .so, fuzzy name, fuzzy name/init.lua, report), the literals it
    appends, and the constants of calcMatchStrScore (−1000000 no match, −1000 per directory, +10 per
    shared leading directory) -/
theorem resolution_code_shape :
    Gen.referAttempts =
      ["MatchCompleteReferFile", "GetBestMatchReferFile", "InsertError",
       "MatchAllDirReferFile", "MatchAllDirReferFile", "MatchAllDirReferFile", "InsertError",
       "MatchAllDirReferFile", "GetBestMatchReferFile", "GetBestMatchReferFile", "InsertError"] ∧
    Gen.referLiterals = [".", "/", ".so", ".lua", "/init.lua", ".so", "/init.lua"] ∧
    Gen.scoreConsts = ["0", "1", "1000000", "0", "1000", "10"] := ⟨rfl, rfl, rfl⟩
#print axioms resolution_code_shape

theorem maxScore_isMax (root cur rs : List String) (c : File) (r : List File) :
    ∃ m, maxScore root cur rs (c :: r) = some m ∧
      (∃ f ∈ c :: r, score root cur rs f = m) ∧ ∀ g ∈ c :: r, score root cur rs g ≤ m := by
  induction r generalizing c with
  | nil => exact ⟨_, rfl, ⟨c, List.mem_singleton_self c, rfl⟩,
      fun g hg => List.mem_singleton.mp hg ▸ Int.le_refl _⟩
  | cons d t ih =>
    obtain ⟨m, hm, ⟨g, hg, hs⟩, hub⟩ := ih d
    refine ⟨max m (score root cur rs c), by rw [maxScore, hm], ?_, List.forall_mem_cons.mpr
      ⟨Int.le_max_right _ _, fun x hx => Int.le_trans (hub x hx) (Int.le_max_left _ _)⟩⟩
    rcases Int.le_total m (score root cur rs c) with hc | hc
    · exact ⟨c, List.mem_cons_self, (Int.max_eq_right hc).symm⟩
    · exact ⟨g, List.mem_cons_of_mem c hg, hs.trans (Int.max_eq_left hc).symm⟩

theorem maxScore_some (root cur rs : List String) (f : File) (r : List File) :
    ∃ m, maxScore root cur rs (f :: r) = some m :=
  let ⟨m, hm, _⟩ := maxScore_isMax root cur rs f r
  ⟨m, hm⟩

/-- the maximum is attained -/
theorem maxScore_attained (root cur rs : List String) (cands : List File) (m : Int)
    (h : maxScore root cur rs cands = some m) : ∃ f ∈ cands, score root cur rs f = m := by
  obtain _ | ⟨c, r⟩ := cands
  · cases h
  · obtain ⟨m', hm', hatt, _⟩ := maxScore_isMax root cur rs c r
    exact Option.some.inj (hm'.symm.trans h) ▸ hatt

theorem mem_best (root cur rs : List String) (cands : List File) (f : File) :
    f ∈ best root cur rs cands ↔ f ∈ cands ∧ ∀ g ∈ cands, score root cur rs g ≤ score root cur rs f := by
  unfold best
  split
  · simp
  · simp only [List.mem_singleton, forall_eq]
    exact ⟨fun h => ⟨h, h ▸ Int.le_refl _⟩, And.left⟩
  · obtain _ | ⟨c, r⟩ := cands
    · contradiction
    · obtain ⟨m, hm, ⟨g, hg, hgm⟩, hub⟩ := maxScore_isMax root cur rs c r
      rw [hm, List.mem_filter, beq_iff_eq]
      exact and_congr_right fun hf =>
        ⟨fun h => h ▸ hub, fun h => Int.le_antisymm (hub f hf) (hgm ▸ h g hg)⟩

theorem best_subset (root cur rs : List String) (cands : List File) :
    ∀ f ∈ best root cur rs cands, f ∈ cands :=
  fun f hf => ((mem_best root cur rs cands f).mp hf).1

theorem best_nonempty (root cur rs : List String) (cands : List File) (h : cands ≠ []) :
    best root cur rs cands ≠ [] := by
  obtain _ | ⟨c, r⟩ := cands
  · contradiction
  · obtain ⟨m, -, ⟨g, hg, hgm⟩, hub⟩ := maxScore_isMax root cur rs c r
    exact List.ne_nil_of_mem ((mem_best root cur rs (c :: r) g).mpr ⟨hg, hgm ▸ hub⟩)

theorem best_unique (root cur rs : List String) (f : File) : best root cur rs [f] = [f] := rfl

theorem best_empty_iff (root cur rs : List String) (cands : List File) :
    best root cur rs cands = [] ↔ cands = [] :=
  ⟨fun h => Decidable.by_contra fun hc => best_nonempty root cur rs cands hc h, fun h => by rw [h]; rfl⟩
#print axioms best_subset
#print axioms best_nonempty
#print axioms best_empty_iff

theorem resolveRequire_sound (files : List File) (root cur rs : List String) :
    ∀ f ∈ resolveRequire files root cur rs,
      f ∈ files ∧ (matchPre root rs f = true ∨ matchSuf root (rs ++ ["init.lua"]) f = true) := by
  intro f hf
  unfold resolveRequire at hf
  split at hf
  · exact (List.mem_filter.mp (best_subset _ _ _ _ f hf)).imp_right .inr
  · exact (List.mem_filter.mp (best_subset _ _ _ _ f hf)).imp_right .inl
#print axioms resolveRequire_sound

/-- the type-6 diagnostic (nothing resolved) ⇔ no file matches `name.*` and none matches `name/init.lua` -/
theorem diag_iff_no_match (files : List File) (root cur rs : List String) :
    resolveRequire files root cur rs = [] ↔
      (files.filter (matchPre root rs) = [] ∧ files.filter (matchSuf root (rs ++ ["init.lua"])) = []) := by
  rw [resolveRequire, ← best_empty_iff root cur rs (files.filter (matchPre root rs)),
    ← best_empty_iff root cur (rs ++ ["init.lua"]) (files.filter (matchSuf root _))]
  cases best root cur rs (files.filter (matchPre root rs)) <;> simp
#print axioms diag_iff_no_match

theorem endsWith_iff (l s : List String) : endsWith l s = true ↔ s <:+ l := by
  rw [endsWith, Bool.and_eq_true, decide_eq_true_eq, beq_iff_eq, List.suffix_iff_eq_drop, eq_comm]
  exact ⟨And.right, fun h => ⟨(List.suffix_iff_eq_drop.mpr h).length_le, h⟩⟩

/-- directories above the workspace root do not matter when the reference is not longer than the
    path below the root -/
theorem endsWith_root (root l s : List String) (h : s.length ≤ l.length) :
    endsWith (root ++ l) s = endsWith l s := by
  rw [Bool.eq_iff_iff, endsWith_iff, endsWith_iff]
  exact ⟨fun hs => List.suffix_of_suffix_length_le hs (List.suffix_append root l) h,
    fun hs => hs.trans (List.suffix_append root l)⟩

theorem endsWith_snoc (l s : List String) (x : String) :
    endsWith (l ++ [x]) (s ++ [x]) = endsWith l s := by
  rw [Bool.eq_iff_iff, endsWith_iff, endsWith_iff, List.suffix_append_self_iff]

/-- no dotted names: every indexed file is `stem.lua` -/
def Plain (f : File) : Prop := f.rest = ".lua"

theorem matchPre_eq_spec (root rs : List String) (f : File) (hp : Plain f)
    (hlen : rs.length ≤ f.dirs.length + 1) : matchPre root rs f = specLua rs f := by
  rw [matchPre, specLua, indexedByStem, List.append_assoc,
    endsWith_root root _ rs (by rw [List.length_append]; exact hlen), hp]
  rfl  -- `".lua" != ""` and `".lua" == ".lua"` both evaluate to `true`
#print axioms matchPre_eq_spec

theorem getLast_snoc (rs : List String) (x : String) : (rs ++ [x]).getLast? = some x :=
  List.getLast?_concat

theorem matchInit_eq_spec (root rs : List String) (f : File) (hrs : rs ≠ [])
    (hname : f.name = "init.lua" ↔ (f.stem = "init" ∧ f.rest = ".lua"))
    (hlen : rs.length ≤ f.dirs.length) : matchSuf root (rs ++ ["init.lua"]) f = specInit rs f := by
  rw [matchSuf, specInit, getLast_snoc]
  by_cases hn : f.name = "init.lua"
  · obtain ⟨hs, hr⟩ := hname.mp hn
    rw [beq_iff_eq.mpr hs, beq_iff_eq.mpr hr, bne_iff_ne.mpr hrs, hn, List.append_assoc,
      endsWith_root root _ _ (by simpa using hlen), endsWith_snoc]
    simp
  · have h2 : (f.stem == "init" && f.rest == ".lua") = false := by
      rw [← Bool.not_eq_true, Bool.and_eq_true, beq_iff_eq, beq_iff_eq]
      exact mt hname.mpr hn
    rw [beq_eq_false_iff_ne.mpr fun h => hn (Option.some.inj h).symm, h2]
    rfl  -- both sides start with `false &&`
#print axioms matchInit_eq_spec

theorem filter_congr2 {p q : File → Bool} (l : List File) (h : ∀ f ∈ l, p f = q f) : l.filter p = l.filter q :=
  List.filter_congr h

/-- in a workspace without dotted file names, whose paths are longer than the module string, the
    "file not found" diagnostic appears exactly when the documented mapping finds no file -/
theorem resolve_empty_iff_spec (files : List File) (root cur rs : List String) (hrs : rs ≠ [])
    (hp : ∀ f ∈ files, Plain f)
    (hname : ∀ f ∈ files, (f.name = "init.lua" ↔ (f.stem = "init" ∧ f.rest = ".lua")))
    (hlen : ∀ f ∈ files, rs.length ≤ f.dirs.length) :
    resolveRequire files root cur rs = [] ↔ specCandidates files rs = [] := by
  rw [diag_iff_no_match, specCandidates,
    filter_congr2 files fun f hf => matchPre_eq_spec root rs f (hp f hf) (Nat.le_succ_of_le (hlen f hf)),
    filter_congr2 files fun f hf => matchInit_eq_spec root rs f hrs (hname f hf) (hlen f hf)]
  cases files.filter (specLua rs) <;> simp
#print axioms resolve_empty_iff_spec

/-- the hypotheses are satisfiable and the conclusion is non-trivial: lib/util/mod.lua and
    lib/net/init.lua; `util.mod` and `lib.net` resolve, `util.nope` does not -/
example :
    let files : List File := [⟨["lib", "util"], "mod", ".lua"⟩, ⟨["lib", "net"], "init", ".lua"⟩]
    resolveRequire files ["ws"] ["main.lua"] ["util", "mod"] = [⟨["lib", "util"], "mod", ".lua"⟩] ∧
    resolveRequire files ["ws"] ["main.lua"] ["lib", "net"] = [⟨["lib", "net"], "init", ".lua"⟩] ∧
    resolveRequire files ["ws"] ["main.lua"] ["util", "nope"] = [] ∧
    specCandidates files ["util", "mod"] = [⟨["lib", "util"], "mod", ".lua"⟩] := by decide

/-- class K1 (dotted file name): `require("mod")` loads mod.test.lua, which the documented mapping
    does not allow, and go-to-definition on the string does not find -/
theorem K1_witness :
    resolveRequire [⟨[], "mod", ".test.lua"⟩] ["ws"] ["main.lua"] ["mod"] = [⟨[], "mod", ".test.lua"⟩] ∧
    resolveDefine [⟨[], "mod", ".test.lua"⟩] ["ws"] ["main.lua"] ["mod"] = [] ∧
    specCandidates [⟨[], "mod", ".test.lua"⟩] ["mod"] = [] := by decide
#print axioms K1_witness

/-- a tie in score: a/mod.lua and b/mod.lua are equally ranked seen from main.lua … -/
theorem tie_witness :
    (resolveRequire [⟨["a"], "mod", ".lua"⟩, ⟨["b"], "mod", ".lua"⟩] ["ws"] ["main.lua"] ["mod"]).length = 2 := by
  decide
#print axioms tie_witness

theorem pickMin_none : ∀ (l : List File), pickMin l = none ↔ l = []
  | [] => by simp [pickMin]
  | x :: r => by
    unfold pickMin
    cases pickMin r <;> simp

theorem pickMin_isMin (l : List File) (f : File) (h : pickMin l = some f) : f ∈ l ∧ ∀ x ∈ l, f.rel ≤ x.rel := by
  induction l generalizing f with
  | nil => cases h
  | cons y r ih =>
    rw [pickMin] at h
    cases hr : pickMin r with
    | none =>
      rw [hr] at h
      cases Option.some.inj h
      cases (pickMin_none r).mp hr
      exact ⟨List.mem_singleton_self y, fun x hx => List.mem_singleton.mp hx ▸ String.le_refl _⟩
    | some g =>
      rw [hr] at h
      cases Option.some.inj h
      have ⟨hg, hle⟩ := ih g hr
      unfold minPath
      split
      · rename_i hlt
        exact ⟨List.mem_cons_of_mem y hg, List.forall_mem_cons.mpr ⟨String.not_lt.mp (String.lt_asymm hlt), hle⟩⟩
      · rename_i hnl
        exact ⟨List.mem_cons_self, List.forall_mem_cons.mpr
          ⟨String.le_refl _, fun x hx => String.le_trans (String.not_lt.mp hnl) (hle x hx)⟩⟩

theorem pickMin_mem : ∀ (l : List File) (f : File), pickMin l = some f → f ∈ l :=
  fun l f h => (pickMin_isMin l f h).1

/-- the chosen file has the smallest path among the candidates -/
theorem pickMin_le : ∀ (l : List File) (f : File), pickMin l = some f → ∀ x ∈ l, f.rel ≤ x.rel :=
  fun l f h => (pickMin_isMin l f h).2

/-- among candidates with pairwise different paths the winner is determined by the set of candidates -/
theorem pickMin_eq_some_iff (l : List File) (hinj : ∀ f ∈ l, ∀ g ∈ l, f.rel = g.rel → f = g) (f : File) :
    pickMin l = some f ↔ f ∈ l ∧ ∀ x ∈ l, f.rel ≤ x.rel := by
  refine ⟨pickMin_isMin l f, fun ⟨hf, hle⟩ => ?_⟩
  cases h : pickMin l with
  | none =>
    rw [(pickMin_none l).mp h] at hf
    cases hf
  | some g =>
    have ⟨hg, hle'⟩ := pickMin_isMin l g h
    exact congrArg some (hinj g hg f hf (String.le_antisymm (hle' f hf) (hle g hg)))

/-- the winner does not depend on the order in which the candidates are visited (they come out of a Go map):
    two lists with the same members and pairwise different paths have the same winner -/
theorem pickMin_order_independent (l1 l2 : List File) (hsame : ∀ f, f ∈ l1 ↔ f ∈ l2)
    (hinj : ∀ f ∈ l1, ∀ g ∈ l1, f.rel = g.rel → f = g) : pickMin l1 = pickMin l2 := by
  have hinj2 : ∀ f ∈ l2, ∀ g ∈ l2, f.rel = g.rel → f = g :=
    fun f hf g hg => hinj f ((hsame f).mpr hf) g ((hsame g).mpr hg)
  apply Option.ext
  intro f
  simp only [pickMin_eq_some_iff l1 hinj, pickMin_eq_some_iff l2 hinj2, hsame]
#print axioms pickMin_order_independent

/-- the chosen file is one of the best-scored candidates, and there is one iff there is a candidate -/
theorem choose_mem_best (root cur rs : List String) (cands : List File) (f : File)
    (h : choose root cur rs cands = some f) : f ∈ best root cur rs cands ∧ f ∈ cands :=
  have := pickMin_mem _ f h
  ⟨this, best_subset root cur rs cands f this⟩
#print axioms choose_mem_best

theorem choose_none_iff (root cur rs : List String) (cands : List File) :
    choose root cur rs cands = none ↔ cands = [] := by
  rw [choose, pickMin_none, best_empty_iff]
#print axioms choose_none_iff

/-- in the tie above the analysis and go-to-definition on the string now load the same file, a/mod.lua -/
theorem tie_resolved :
    loadRequire [⟨["b"], "mod", ".lua"⟩, ⟨["a"], "mod", ".lua"⟩] ["ws"] ["main.lua"] ["mod"] = some ⟨["a"], "mod", ".lua"⟩ ∧
    loadDefine [⟨["b"], "mod", ".lua"⟩, ⟨["a"], "mod", ".lua"⟩] ["ws"] ["main.lua"] ["mod"] = some ⟨["a"], "mod", ".lua"⟩ := by
  decide
#print axioms tie_resolved

end LuaHelper.C18
