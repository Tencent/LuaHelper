/-
C13 — "Hover shows the right symbol and its documentation comment verbatim".

The documentation string goes through `getFinalStrComment` and then `ConvertStrToUtf8`, which returns
its argument unchanged iff `isUtf8` accepts it and otherwise re-decodes it as GBK.
 * `utf8Go_enc` : the scan steps over every text made of ASCII, 3-byte (CJK …) and 4-byte (astral)
   well-formed UTF-8 sequences, whatever follows it; hence `isUtf8_accepts` : such a text is accepted and
   reproduced unaltered — for all lengths;
 * `isUtf8_rejects_two_byte` : ANY text in which a 2-byte sequence (Latin-1 supplement, Greek, Cyrillic,
   Hebrew, Arabic …) follows accepted characters is rejected (`preNUm(..) > 2`), i.e. handed to the GBK
   decoder: finding C13-K1, with the concrete witness "é";
 * `cleanLine_plain` : a comment line that does not start with '-', '*' or a space is left as it is.
 * comment-to-declaration attachment (`skipWhiteSpaces` + `GetLineComment`, Model/Comment.lean), for every gap
   of short comments none of which shares the line of the token before it (`gap_spec`, from the invariant
   `go_spec` of the scan in Proofs/Comment.lean):
   `block_is_run` (each stored block is a run of consecutive lines, keyed by its last line, marked head),
   `blocks_partition` (the blocks, concatenated, are exactly the comments of the gap, in order),
   `blocks_maximal` (no block starts on the line after the previous block's key),
   `blank_line_separates` (every line between two lines of one block is itself a comment line: a comment
   separated from a declaration's block by a blank line is never part of its documentation),
   `trailing_alone` (a trailing comment is stored alone under its own line, marked not-head) and
   `trailing_not_head_doc` (such an entry is never returned as the head documentation of the next line).
Label rendering is validated by correspondence only.
-/
import LuaHelper.Model.Hov
import LuaHelper.Proofs.Comment
import LuaHelper.Proofs.Basic
namespace LuaHelper.C13
open LuaHelper.Lex LuaHelper.Hov

/-- characters `isUtf8` is meant to accept -/
inductive UCh where
  | ascii (b : UInt8)
  | three (a b c : UInt8)
  | four (a b c d : UInt8)

def UCh.bytes : UCh → Bytes
  | .ascii b => [b] | .three a b c => [a, b, c] | .four a b c d => [a, b, c, d]

def isCont (b : UInt8) : Prop := b &&& 0xC0 = 0x80

def UCh.wf : UCh → Prop
  | .ascii b => b &&& 0x80 = 0
  | .three a b c => 0xE0 ≤ a ∧ a < 0xF0 ∧ isCont b ∧ isCont c
  | .four a b c d => 0xF0 ≤ a ∧ a < 0xF8 ∧ isCont b ∧ isCont c ∧ isCont d

def enc (cs : List UCh) : Bytes := cs.flatMap UCh.bytes

theorem lead_not_ascii (a : UInt8) (h : 0xE0 ≤ a) : ¬ (a &&& 0x80 = 0) :=
  Byte.not_ascii a (UInt8.le_trans (by decide) h)

theorem preNum_three (a : UInt8) (h1 : 0xE0 ≤ a) (h2 : a < 0xF0) : preNum a = 3 := by
  rw [preNum, if_neg (Byte.not_lt_threshold h1), if_neg (Byte.not_lt_threshold h1),
    if_neg (UInt8.not_lt.mpr h1), if_pos h2]

theorem preNum_four (a : UInt8) (h1 : 0xF0 ≤ a) (h2 : a < 0xF8) : preNum a = 4 := by
  rw [preNum, if_neg (Byte.not_lt_threshold h1), if_neg (Byte.not_lt_threshold h1),
    if_neg (Byte.not_lt_threshold h1), if_neg (UInt8.not_lt.mpr h1), if_pos h2]

#print axioms lead_not_ascii
#print axioms preNum_three
#print axioms preNum_four

theorem utf8Go_bytes (c : UCh) (hc : c.wf) (rest : Bytes) : utf8Go 0 (c.bytes ++ rest) = utf8Go 0 rest := by
  cases c with
  | ascii b =>
    have hb : b &&& 0x80 = 0 := hc
    simp [UCh.bytes, utf8Go, hb]
  | three a b d =>
    obtain ⟨h1, h2, hb, hd⟩ := hc
    unfold isCont at hb hd
    simp [UCh.bytes, utf8Go, lead_not_ascii a h1, preNum_three a h1 h2, hb, hd]
  | four a b d e =>
    obtain ⟨h1, h2, hb, hd, he⟩ := hc
    unfold isCont at hb hd he
    simp [UCh.bytes, utf8Go, Byte.not_ascii a (UInt8.le_trans (by decide) h1), preNum_four a h1 h2, hb, hd, he]

/-- the scan steps over a text of well-formed characters, whatever follows it -/
theorem utf8Go_enc (cs : List UCh) (hwf : ∀ c ∈ cs, c.wf) (rest : Bytes) :
    utf8Go 0 (enc cs ++ rest) = utf8Go 0 rest := by
  induction cs with
  | nil => rfl
  | cons c r ih =>
    rw [enc, List.flatMap_cons, List.append_assoc, utf8Go_bytes c (hwf c List.mem_cons_self)]
    exact ih fun x hx => hwf x (List.mem_cons_of_mem c hx)

/-- UTF-8 text without 2-byte sequences is accepted (so `ConvertStrToUtf8` is the identity on it) -/
theorem isUtf8_accepts (cs : List UCh) (hwf : ∀ c ∈ cs, c.wf) : isUtf8 (enc cs) = true := by
  rw [isUtf8, ← List.append_nil (enc cs), utf8Go_enc cs hwf]
  rfl
#print axioms isUtf8_accepts

/-- hover text in such scripts is reproduced unaltered, whatever the GBK decoder would do -/
theorem convert_identity (gbk : Bytes → Bytes) (cs : List UCh) (hwf : ∀ c ∈ cs, c.wf) :
    convert gbk (enc cs) = enc cs := by
  rw [convert, isUtf8_accepts cs hwf, if_pos rfl, ite_self]
#print axioms convert_identity

theorem preNum_two (a : UInt8) (h1 : 0xC0 ≤ a) (h2 : a < 0xE0) : preNum a = 2 ∧ ¬ (a &&& 0x80 = 0) := by
  refine ⟨?_, Byte.not_ascii a (UInt8.le_trans (by decide) h1)⟩
  rw [preNum, if_neg (Byte.not_lt_threshold h1), if_neg (UInt8.not_lt.mpr h1), if_pos h2]

#print axioms preNum_two

/-- C13-K1 for ALL texts: accepted characters followed by any 2-byte lead byte are rejected -/
theorem isUtf8_rejects_two_byte (cs : List UCh) (hwf : ∀ c ∈ cs, c.wf) (a : UInt8) (rest : Bytes)
    (h1 : 0xC0 ≤ a) (h2 : a < 0xE0) : isUtf8 (enc cs ++ a :: rest) = false := by
  obtain ⟨hp, hna⟩ := preNum_two a h1 h2
  rw [isUtf8, utf8Go_enc cs hwf]
  simp [utf8Go, hna, hp]
#print axioms isUtf8_rejects_two_byte

/-- "é" (C3 A9) is not accepted -/
theorem K1_witness : isUtf8 [0xC3, 0xA9] = false := by decide +kernel
#print axioms K1_witness

theorem dropPrefix_head_ne (p c : UInt8) (ps r : Bytes) (h : c ≠ p) : dropPrefix (p :: ps) (c :: r) = c :: r := by
  simp [dropPrefix, List.isPrefixOf, Ne.symm h]

/-- a line that does not start with '-', '*' or a space is reproduced as it is -/
theorem cleanLine_plain (s : Bytes) (h : ∀ c, s.head? = some c → c ≠ 45 ∧ c ≠ 42 ∧ c ≠ 32) : cleanLine s = s := by
  cases s with
  | nil => rfl
  | cons c r =>
    obtain ⟨h1, h2, h3⟩ := h c rfl
    rw [cleanLine, dropPrefix_head_ne _ _ _ _ h1, dropPrefix_head_ne _ _ _ _ h2, dropPrefix_head_ne _ _ _ _ h1,
      List.dropWhile_cons_of_neg (by simpa using h3)]
#print axioms cleanLine_plain

open LuaHelper.Comment in
/-- a gap that starts with a head comment is scanned with that comment as the current block -/
theorem gap_cons_head (prevEnd : Nat) (c : CLine) (cs : List CLine) (hh : c.line ≠ prevEnd) :
    gap prevEnd (c :: cs) = go prevEnd (some (fresh prevEnd c)) c.endLine cs := by
  simp [gap, go, fresh, Ne.symm hh]
#print axioms gap_cons_head

open LuaHelper.Comment in
/-- a gap of short comments none of which shares the line of the token before it: `go_spec` with the first
    comment as the current block -/
theorem gap_spec (prevEnd : Nat) (cs : List CLine) (hs : ∀ c ∈ cs, c.short = true)
    (hh : ∀ c ∈ cs, c.line ≠ prevEnd) :
    (∀ e ∈ gap prevEnd cs, Block e) ∧
    (gap prevEnd cs).flatMap (fun e => e.2.lines) = cs.map (fun c => (c.endLine, c.text)) ∧
    Maximal (gap prevEnd cs) := by
  cases cs with
  | nil => exact ⟨fun _ h => absurd h List.not_mem_nil, rfl, trivial⟩
  | cons c cs =>
    obtain ⟨hsc, hs'⟩ := List.forall_mem_cons.mp hs
    obtain ⟨hhc, hh'⟩ := List.forall_mem_cons.mp hh
    obtain ⟨i1, i2, i3, -⟩ := go_spec prevEnd cs _ _ (block_fresh prevEnd c hsc hhc) hs' hh'
    rw [gap_cons_head prevEnd c cs hhc]
    exact ⟨i1, by rw [i2, fresh_short_head prevEnd c hsc hhc]; rfl, i3⟩

open LuaHelper.Comment in
/-- every stored block is a run of consecutive lines, keyed by its last line, and marked as a head comment -/
theorem block_is_run (prevEnd : Nat) (cs : List CLine) (hs : ∀ c ∈ cs, c.short = true)
    (hh : ∀ c ∈ cs, c.line ≠ prevEnd) : ∀ e ∈ gap prevEnd cs, Block e :=
  (gap_spec prevEnd cs hs hh).1
#print axioms block_is_run

open LuaHelper.Comment in
/-- the blocks, concatenated, are exactly the comments of the gap in order: nothing is lost or repeated -/
theorem blocks_partition (prevEnd : Nat) (cs : List CLine) (hs : ∀ c ∈ cs, c.short = true)
    (hh : ∀ c ∈ cs, c.line ≠ prevEnd) :
    (gap prevEnd cs).flatMap (fun e => e.2.lines) = cs.map (fun c => (c.endLine, c.text)) :=
  (gap_spec prevEnd cs hs hh).2.1
#print axioms blocks_partition

open LuaHelper.Comment in
/-- no block starts on the line directly after the key of the block stored before it -/
theorem blocks_maximal (prevEnd : Nat) (cs : List CLine) (hs : ∀ c ∈ cs, c.short = true)
    (hh : ∀ c ∈ cs, c.line ≠ prevEnd) : Maximal (gap prevEnd cs) :=
  (gap_spec prevEnd cs hs hh).2.2
#print axioms blocks_maximal

open LuaHelper.Comment in
/-- every line between two lines of one block is a line of that block, hence a comment line of the gap -/
theorem blank_line_separates (prevEnd : Nat) (cs : List CLine) (hs : ∀ c ∈ cs, c.short = true)
    (hh : ∀ c ∈ cs, c.line ≠ prevEnd) (e : Nat × CInfo) (he : e ∈ gap prevEnd cs)
    (a b x : Nat) (ha : a ∈ lineNos e.2) (hb : b ∈ lineNos e.2) (h1 : a ≤ x) (h2 : x ≤ b) :
    x ∈ lineNos e.2 ∧ ∃ c ∈ cs, c.endLine = x := by
  have hx := consec_between _ (block_is_run prevEnd cs hs hh e he).consec a b x ha hb h1 h2
  have hp := congrArg (List.map Prod.fst) (blocks_partition prevEnd cs hs hh)
  rw [List.map_flatMap, List.map_map] at hp
  have : x ∈ cs.map (Prod.fst ∘ fun c => (c.endLine, c.text)) := hp ▸ List.mem_flatMap.mpr ⟨e, he, hx⟩
  exact ⟨hx, List.mem_map.mp this⟩
#print axioms blank_line_separates

open LuaHelper.Comment in
/-- a trailing comment (on the line of the token before the gap) is stored alone, under its own line, not-head -/
theorem trailing_alone (prevEnd : Nat) (c : CLine) (cs : List CLine) (ht : c.line = prevEnd) :
    gap prevEnd (c :: cs) = (c.endLine, { fresh prevEnd c with head := false }) :: go prevEnd none c.endLine cs := by
  simp [gap, go, fresh, ht]
#print axioms trailing_alone

open LuaHelper.Comment in
/-- an entry that is not a head comment is never the head documentation of the following line -/
theorem trailing_not_head_doc (m : CMap) (line : Nat) (ci : CInfo) (hf : find m line = some ci)
    (hh : ci.head = false) : special m line true = [] := by
  simp [special, hf, hh]
#print axioms trailing_not_head_doc

open LuaHelper.Comment in
/-- the hypotheses are satisfiable and the model computes the expected blocks on a concrete gap -/
theorem comment_example :
    gap 3 [⟨5, 5, true, [97]⟩, ⟨7, 7, true, [98]⟩, ⟨8, 8, true, [99]⟩] =
      [(5, ⟨true, true, [(5, [97])]⟩), (8, ⟨true, true, [(7, [98]), (8, [99])]⟩)] := by decide
#print axioms comment_example

end LuaHelper.C13
