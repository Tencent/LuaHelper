/-
C09 — "Results are a function of workspace and configuration, not of scheduling".

The order-sensitive step of the analysis is the merge of same-named globals of several files into the
workspace table.  Model: Model/Merge.lean.  Proved here:
 * `dominant_wins`: if one candidate dominates all others (no larger function level and scope level,
   strictly smaller line; e.g. the usual case of top-level definitions on different lines), every order
   of the files yields that candidate;
 * `visit_order_matters` / `same_line_visit_order_matters`: without a dominating candidate the winner
   depends on the visiting order (the former finding K1: the files were visited in map-iteration order);
 * `merge_visits_sorted` (regenerated facts): the merge of globals and the merge of annotation types now
   collect the file names, sort them and visit the files in that order;
 * `sorted_visit_function_of_workspace`: whatever order the candidates are handed over in (map iteration,
   directory listing, scheduling), the sorted visit and its winner are the same — the result is a function
   of the workspace.
The harness repeats the real server on identical workspaces (GOMAXPROCS 1 / 2 / 16, shuffled file
creation order; map iteration is randomised by the Go runtime), compares normalised answers, and checks
go-to-definition of every multiply defined global against `winnerSorted`.
-/
import LuaHelper.Model.Merge
import LuaHelper.Gen.Merge
import LuaHelper.Proofs.Basic
namespace LuaHelper.C09
open LuaHelper.Merge

/-- the code the model was written after, as it stands in /repo now (regenerated on every run): the three
    blocking comparisons of `Merge.blocks` with their operators, the same-file exemption, and the
    backward scan that makes the LAST accepted candidate the winner -/
theorem merge_code_shape :
    Gen.mergeConds =
      ["oneVar.FileName == varInfo.FileName => continue",
       "oneVar.ExtraGlobal.FuncLv < varInfo.ExtraGlobal.FuncLv => return false",
       "oneVar.ExtraGlobal.ScopeLv < varInfo.ExtraGlobal.ScopeLv => return false",
       "oneVar.Loc.StartLine <= varInfo.Loc.StartLine => return false"] ∧
    Gen.findScanBackward = true := ⟨rfl, rfl⟩
#print axioms merge_code_shape

/-- the two merges over files (globals with the members other files add to them; annotation types) range
    over the file map only to collect the names, sort them, and visit the files in sorted order -/
theorem merge_visits_sorted :
    Gen.globalVisits =
      ["range third.AllIncludeFile { fileList = append(fileList, strFile) }", "sort.Strings(fileList)",
       "range fileList", "range fileList"] ∧
    Gen.typeVisits =
      ["range a.fileStructMap { fileList = append(fileList, strFile) }", "sort.Strings(fileList)", "range fileList"] :=
  ⟨rfl, rfl⟩
#print axioms merge_visits_sorted

/-- the same for the per-project second pass of project mode (luahelper.json ProjectFiles; repaired): the helper collects
    and sorts the project's files, and the merge of the _G globals, the merge of the globals of required files and the merge of
    the members other files add to them all range over its result — so `sorted_visit_function_of_workspace` speaks about them too -/
theorem project_visits_sorted :
    Gen.projectVisits =
      ["range second.AllFiles { fileList = append(fileList, strFile) }", "sort.Strings(fileList)",
       "range sortedProjectFiles(second)", "range sortedProjectFiles(second)", "range sortedProjectFiles(second)"] :=
  rfl
#print axioms project_visits_sorted

theorem blocks_iff (e v : Cand) : blocks e v = true ↔
    e.file ≠ v.file ∧ (e.funcLv < v.funcLv ∨ e.scopeLv < v.scopeLv ∨ e.line ≤ v.line) := by
  simp [blocks, or_assoc]

theorem accept_iff (vec : List Cand) (v : Cand) : accept vec v = true ↔ ∀ e ∈ vec, blocks e v = false := by
  simp [accept]

theorem addCand_of_blocked {vec : List Cand} {e v : Cand} (he : e ∈ vec) (h : blocks e v = true) :
    addCand vec v = vec :=
  if_neg fun hacc => by simp [(accept_iff vec v).mp hacc e he] at h

theorem mem_addCand {vec : List Cand} {v x : Cand} (h : x ∈ addCand vec v) : x ∈ vec ∨ x = v := by
  unfold addCand at h
  split at h
  · simpa using h
  · exact .inl h

theorem not_blocks_of_dominates {m x : Cand} (h : dominates m x) : blocks x m = false :=
  Bool.eq_false_iff.mpr fun hb => by
    have := (blocks_iff x m).mp hb
    unfold dominates at h
    omega

theorem blocks_of_dominates {m x : Cand} (h : dominates m x) (hf : m.file ≠ x.file) : blocks m x = true :=
  (blocks_iff m x).mpr ⟨hf, .inr (.inr (Nat.le_of_lt h.2.2))⟩

theorem run_append (a b : List Cand) : run (a ++ b) = b.foldl addCand (run a) :=
  List.foldl_append

/-- everything listed was visited -/
theorem fold_subset (vec order : List Cand) : ∀ x ∈ order.foldl addCand vec, x ∈ vec ∨ x ∈ order := by
  induction order generalizing vec with
  | nil => exact fun x hx => .inl hx
  | cons v r ih =>
    intro x hx
    rcases ih (addCand vec v) x hx with h | h
    · exact (mem_addCand h).imp_right fun e => List.mem_cons.mpr (.inl e)
    · exact .inr (List.mem_cons_of_mem v h)

/-- once a candidate that blocks everything still to come is last, it stays last -/
theorem fold_blocked (vec : List Cand) (m : Cand) (rest : List Cand)
    (hb : ∀ v ∈ rest, blocks m v = true) :
    rest.foldl addCand (vec ++ [m]) = vec ++ [m] := by
  induction rest with
  | nil => rfl
  | cons v r ih =>
    rw [List.foldl_cons, addCand_of_blocked (List.mem_append_right vec List.mem_cons_self) (hb v List.mem_cons_self)]
    exact ih fun x hx => hb x (List.mem_cons_of_mem v hx)

/-- a candidate that nothing visited before it blocks, and that blocks everything visited after it, wins -/
theorem winner_of_blocks (pre post : List Cand) (m : Cand) (hpre : ∀ e ∈ pre, blocks e m = false)
    (hpost : ∀ v ∈ post, blocks m v = true) : winner (pre ++ m :: post) = some m := by
  -- m is accepted, since only candidates of the prefix are listed by then
  have hacc : accept (run pre) m = true := (accept_iff _ m).mpr fun e he =>
    hpre e ((fold_subset [] pre e he).resolve_left List.not_mem_nil)
  rw [winner, run_append, List.foldl_cons, addCand, if_pos hacc, fold_blocked (run pre) m post hpost,
    List.getLast?_concat]

/-- the dominating candidate wins, whatever the order in which the files are visited -/
theorem dominant_wins (pre post : List Cand) (m : Cand)
    (hfile : ∀ x ∈ pre ++ post, x.file ≠ m.file)
    (hdom : ∀ x ∈ pre ++ post, dominates m x) :
    winner (pre ++ m :: post) = some m :=
  winner_of_blocks pre post m (fun e he => not_blocks_of_dominates (hdom e (List.mem_append_left post he)))
    fun v hv =>
      have hv := List.mem_append_right pre hv
      blocks_of_dominates (hdom v hv) (hfile v hv).symm
#print axioms dominant_wins

/-- The dominating candidate wins wherever it stands, and however often: after its LAST occurrence it blocks everything,
    and nothing in front of it blocks it (an earlier copy of itself is of the same file). -/
theorem dominant_wins_of_mem (order : List Cand) (m : Cand) (hm : m ∈ order)
    (hfile : ∀ x ∈ order, x ≠ m → x.file ≠ m.file) (hdom : ∀ x ∈ order, x ≠ m → dominates m x) :
    winner order = some m := by
  obtain ⟨post, pre, hrev, hlast⟩ := List.eq_append_cons_of_mem (List.mem_reverse.mpr hm)
  obtain rfl : order = pre.reverse ++ m :: post.reverse := by
    rw [← List.reverse_reverse order, hrev, List.reverse_append, List.reverse_cons, List.append_assoc,
      List.singleton_append]
  refine winner_of_blocks _ _ m (fun e he => ?_) fun v hv => ?_
  · by_cases hem : e = m
    · rw [hem]; exact Bool.eq_false_iff.mpr fun h => ((blocks_iff m m).mp h).1 rfl
    · exact not_blocks_of_dominates (hdom e (List.mem_append_left _ he) hem)
  · have hvm : v ≠ m := fun e => hlast (List.mem_reverse.mp (e ▸ hv))
    have hv' : v ∈ pre.reverse ++ m :: post.reverse := List.mem_append_right _ (List.mem_cons_of_mem m hv)
    exact blocks_of_dominates (hdom v hv' hvm) (hfile v hv' hvm).symm

/-- every permutation of the files gives the same winner when a dominating candidate exists -/
theorem dominant_wins_any_order (order : List Cand) (m : Cand) (hm : m ∈ order)
    (hfile : ∀ x ∈ order, x ≠ m → x.file ≠ m.file) (hone : order.count m = 1)
    (hdom : ∀ x ∈ order, x ≠ m → dominates m x) : winner order = some m :=
  dominant_wins_of_mem order m hm hfile hdom
#print axioms dominant_wins_any_order

/-- premises satisfiable: three top-level definitions on lines 3, 7, 9 of three files, any order -/
example : winner [⟨"b.lua", 0, 0, 7⟩, ⟨"a.lua", 0, 0, 3⟩, ⟨"c.lua", 0, 0, 9⟩] = some ⟨"a.lua", 0, 0, 3⟩ ∧
          winner [⟨"c.lua", 0, 0, 9⟩, ⟨"b.lua", 0, 0, 7⟩, ⟨"a.lua", 0, 0, 3⟩] = some ⟨"a.lua", 0, 0, 3⟩ := by decide

/-- why the visit has to be sorted (former finding K1): a nested definition on line 5 (scope level 1) and
    a top-level definition on line 9: neither dominates; whichever file is visited first wins -/
theorem visit_order_matters :
    winner [⟨"a.lua", 0, 1, 5⟩, ⟨"b.lua", 0, 0, 9⟩] = some ⟨"a.lua", 0, 1, 5⟩ ∧
    winner [⟨"b.lua", 0, 0, 9⟩, ⟨"a.lua", 0, 1, 5⟩] = some ⟨"b.lua", 0, 0, 9⟩ := by decide
#print axioms visit_order_matters

/-- the same global defined at top level on the same line number of two files -/
theorem same_line_visit_order_matters :
    winner [⟨"a.lua", 0, 0, 1⟩, ⟨"b.lua", 0, 0, 1⟩] = some ⟨"a.lua", 0, 0, 1⟩ ∧
    winner [⟨"b.lua", 0, 0, 1⟩, ⟨"a.lua", 0, 0, 1⟩] = some ⟨"b.lua", 0, 0, 1⟩ := by decide
#print axioms same_line_visit_order_matters

theorem byFile_trans (a b c : Cand) : byFile a b = true → byFile b c = true → byFile a c = true := by
  simp only [byFile, decide_eq_true_eq]
  exact String.le_trans
theorem byFile_total (a b : Cand) : (byFile a b || byFile b a) = true := by
  simp only [byFile, Bool.or_eq_true, decide_eq_true_eq]
  exact String.le_total a.file b.file

/-- the sorted visit does not depend on the order in which the candidates are handed over (one candidate
    per file: a file's table of globals has one entry per name) -/
theorem sortedVisit_perm (l1 l2 : List Cand) (hp : l1.Perm l2)
    (hfile : ∀ a ∈ l1, ∀ b ∈ l1, a.file = b.file → a = b) : sortedVisit l1 = sortedVisit l2 :=
  Order.mergeSort_eq_of_perm byFile_total byFile_trans hp fun a ha b hb hab hba =>
    hfile a ha b hb (String.le_antisymm (of_decide_eq_true hab) (of_decide_eq_true hba))
#print axioms sortedVisit_perm

/-- the definition a multiply defined global is linked to is a function of the workspace: every order in
    which map iteration, directory listing or scheduling present the files gives the same winner — with or
    without a dominating definition -/
theorem sorted_visit_function_of_workspace (l1 l2 : List Cand) (hp : l1.Perm l2)
    (hfile : ∀ a ∈ l1, ∀ b ∈ l1, a.file = b.file → a = b) : winnerSorted l1 = winnerSorted l2 :=
  congrArg winner (sortedVisit_perm l1 l2 hp hfile)
#print axioms sorted_visit_function_of_workspace

/-- premises satisfiable, and the two former K1 situations now have one answer -/
example : winnerSorted [⟨"a.lua", 0, 1, 5⟩, ⟨"b.lua", 0, 0, 9⟩] = some ⟨"a.lua", 0, 1, 5⟩ ∧
          winnerSorted [⟨"b.lua", 0, 0, 9⟩, ⟨"a.lua", 0, 1, 5⟩] = some ⟨"a.lua", 0, 1, 5⟩ ∧
          winnerSorted [⟨"b.lua", 0, 0, 1⟩, ⟨"a.lua", 0, 0, 1⟩] = some ⟨"a.lua", 0, 0, 1⟩ := by
  -- `decide` does not unfold `mergeSort` (well-founded recursion): `simp` sorts, `decide` runs the visits
  simp [winnerSorted, sortedVisit, List.mergeSort, byFile]
  decide

/-- resultSorter.Less as it stands in /repo now (regenerated on every run): score first, then name, file, line, column —
    the order `symLe` models -/
theorem symbol_less_shape :
    Gen.symbolLess =
      ["a.score > b.score", "a.fileSymbol.Name < b.fileSymbol.Name", "a.fileSymbol.FileName < b.fileSymbol.FileName",
       "a.fileSymbol.Loc.StartLine < b.fileSymbol.Loc.StartLine", "a.fileSymbol.Loc.StartColumn < b.fileSymbol.Loc.StartColumn"] :=
  rfl
#print axioms symbol_less_shape

/-- sorting by a total, transitive, antisymmetric order gives the same list for every order in which the elements are handed
    over — and therefore the same first n (the 200-symbol cap) -/
theorem cap_independent {α : Type} (le : α → α → Bool)
    (htot : ∀ a b, (le a b || le b a) = true) (htrans : ∀ a b c, le a b = true → le b c = true → le a c = true)
    (hanti : ∀ a b, le a b = true → le b a = true → a = b) (l1 l2 : List α) (hp : l1.Perm l2) (n : Nat) :
    (l1.mergeSort le).take n = (l2.mergeSort le).take n := by
  rw [Order.mergeSort_eq_of_perm htot htrans hp fun a _ b _ => hanti a b]
#print axioms cap_independent

structure Sym (N F : Type) where
  score : Nat
  name : N
  file : F
  line : Nat
  col : Nat
deriving DecidableEq

/-- resultSorter.Less as a non-strict order: higher score first; equal scores by name, file, line, column -/
def symLe {N F : Type} [DecidableEq N] [DecidableEq F] (nle : N → N → Bool) (fle : F → F → Bool) (a b : Sym N F) : Bool :=
  if a.score ≠ b.score then decide (a.score > b.score)
  else if a.name ≠ b.name then nle a.name b.name
  else if a.file ≠ b.file then fle a.file b.file
  else if a.line ≠ b.line then decide (a.line < b.line)
  else decide (a.col ≤ b.col)

structure LinOrd {K : Type} (le : K → K → Bool) : Prop where
  total : ∀ a b, (le a b || le b a) = true
  trans : ∀ a b c, le a b = true → le b c = true → le a c = true
  anti : ∀ a b, le a b = true → le b a = true → a = b

theorem LinOrd.flip {K : Type} {le : K → K → Bool} (h : LinOrd le) : LinOrd (fun a b => le b a) :=
  ⟨fun a b => h.total b a, fun a b c x y => h.trans c b a y x, fun a b x y => h.anti a b y x⟩

theorem natLe_linOrd : LinOrd (fun a b : Nat => decide (a ≤ b)) :=
  ⟨fun a b => by simpa using Nat.le_total a b, fun a b c => by simpa using Nat.le_trans,
    fun a b => by simpa using Nat.le_antisymm⟩

theorem natLt_eq_le (a b : Nat) (h : a ≠ b) : decide (a < b) = decide (a ≤ b) :=
  decide_eq_decide.mpr ⟨Nat.le_of_lt, fun hle => Nat.lt_of_le_of_ne hle h⟩

/-- the lexicographic order on pairs, in the shape of `symLe` and `projLe` -/
def lexLe {K R : Type} [DecidableEq K] (cmp : K → K → Bool) (le2 : R → R → Bool) (a b : K × R) : Bool :=
  if a.1 ≠ b.1 then cmp a.1 b.1 else le2 a.2 b.2

theorem lexLe_of_eq {K R : Type} [DecidableEq K] {cmp : K → K → Bool} {le2 : R → R → Bool} {a b : K × R}
    (h : a.1 = b.1) : lexLe cmp le2 a b = le2 a.2 b.2 :=
  if_neg (not_not_intro h)

theorem lexLe_of_ne {K R : Type} [DecidableEq K] {cmp : K → K → Bool} {le2 : R → R → Bool} {a b : K × R}
    (h : a.1 ≠ b.1) : lexLe cmp le2 a b = cmp a.1 b.1 :=
  if_pos h

/-- the lexicographic product of two linear orders is linear. The first components are compared only where they differ,
    so in place of their order `le1` any `cmp` that agrees with it there will do: `<` for `≤`. -/
theorem lexLe_linOrd {K R : Type} [DecidableEq K] {cmp le1 : K → K → Bool} {le2 : R → R → Bool}
    (h1 : LinOrd le1) (hc : ∀ a b, a ≠ b → cmp a b = le1 a b) (h2 : LinOrd le2) : LinOrd (lexLe cmp le2) := by
  have ne {a b : K × R} (h : a.1 ≠ b.1) : lexLe cmp le2 a b = le1 a.1 b.1 := (lexLe_of_ne h).trans (hc _ _ h)
  refine ⟨fun a b => ?_, fun a b c => ?_, fun a b => ?_⟩
  · by_cases h : a.1 = b.1
    · rw [lexLe_of_eq h, lexLe_of_eq h.symm]
      exact h2.total a.2 b.2
    · rw [ne h, ne (Ne.symm h)]
      exact h1.total a.1 b.1
  · by_cases hab : a.1 = b.1
    · by_cases hbc : b.1 = c.1
      · rw [lexLe_of_eq hab, lexLe_of_eq hbc, lexLe_of_eq (hab.trans hbc)]
        exact h2.trans a.2 b.2 c.2
      · rw [ne hbc, ne (hab ▸ hbc : a.1 ≠ c.1), hab]
        exact fun _ h => h
    · by_cases hbc : b.1 = c.1
      · rw [ne hab, ne (hbc ▸ hab : a.1 ≠ c.1), hbc]
        exact fun h _ => h
      · rw [ne hab, ne hbc]
        intro x y
        -- a.1 = c.1 would put b.1 both above and below a.1
        have hac : a.1 ≠ c.1 := fun e => hab (h1.anti a.1 b.1 x (e ▸ y))
        rw [ne hac]
        exact h1.trans a.1 b.1 c.1 x y
  · by_cases h : a.1 = b.1
    · rw [lexLe_of_eq h, lexLe_of_eq h.symm]
      exact fun x y => Prod.ext h (h2.anti a.2 b.2 x y)
    · rw [ne h, ne (Ne.symm h)]
      exact fun x y => absurd (h1.anti a.1 b.1 x y) h

theorem lexLe_natGt_linOrd {R : Type} {le2 : R → R → Bool} (h2 : LinOrd le2) :
    LinOrd (lexLe (fun a b : Nat => decide (a > b)) le2) :=
  lexLe_linOrd natLe_linOrd.flip (fun a b h => natLt_eq_le b a (Ne.symm h)) h2

theorem LinOrd.comap {α β : Type} {le : β → β → Bool} (h : LinOrd le) (f : α → β) (hf : ∀ a b, f a = f b → a = b) :
    LinOrd (fun a b => le (f a) (f b)) :=
  ⟨fun a b => h.total (f a) (f b), fun a b c => h.trans (f a) (f b) (f c), fun a b x y => hf a b (h.anti (f a) (f b) x y)⟩

/-- the order of resultSorter.Less (since the repair) is linear whenever the orders on names and files are -/
theorem symLe_linOrd {N F : Type} [DecidableEq N] [DecidableEq F] (nle : N → N → Bool) (fle : F → F → Bool)
    (hn : LinOrd nle) (hf : LinOrd fle) : LinOrd (symLe nle fle) :=
  -- it is the lexicographic order on (score, name, file, line, column), and a symbol is these five
  (lexLe_natGt_linOrd <| lexLe_linOrd hn (fun _ _ _ => rfl) <| lexLe_linOrd hf (fun _ _ _ => rfl) <|
    lexLe_linOrd natLe_linOrd natLt_eq_le natLe_linOrd).comap
    (fun s : Sym N F => (s.score, s.name, s.file, s.line, s.col)) fun a b h => by cases a; cases b; cases h; rfl
#print axioms symLe_linOrd

/-- workspace/symbol: the symbols answered under the cap do not depend on the order in which files, map entries and
    workers delivered the matches (names / files compared by any linear order, e.g. byte-wise as Go does) -/
theorem workspace_symbol_cap_deterministic {N F : Type} [DecidableEq N] [DecidableEq F] (nle : N → N → Bool)
    (fle : F → F → Bool) (hn : LinOrd nle) (hf : LinOrd fle) (l1 l2 : List (Sym N F)) (hp : l1.Perm l2) (n : Nat) :
    (l1.mergeSort (symLe nle fle)).take n = (l2.mergeSort (symLe nle fle)).take n :=
  let h := symLe_linOrd nle fle hn hf
  cap_independent _ h.total h.trans h.anti l1 l2 hp n
#print axioms workspace_symbol_cap_deterministic

/-- as it was (score only): two different symbols with one score are "equal" for the order — it is not antisymmetric,
    so the sorted list, and with it the cut, depended on the order in which the matches arrived -/
theorem score_only_not_antisymmetric :
    let le := fun (a b : Sym Nat Nat) => decide (a.score ≥ b.score)
    let a : Sym Nat Nat := ⟨1, 1, 1, 1, 0⟩
    let b : Sym Nat Nat := ⟨1, 2, 1, 2, 0⟩
    le a b = true ∧ le b a = true ∧ a ≠ b := by decide
#print axioms score_only_not_antisymmetric

/-- the premises of `workspace_symbol_cap_deterministic` are satisfiable -/
example : LinOrd (symLe (N := Nat) (F := Nat) (fun a b => decide (a ≤ b)) (fun a b => decide (a ≤ b))) :=
  symLe_linOrd _ _ natLe_linOrd natLe_linOrd

/-- the condition under which the visited project replaces the best one so far, as it stands in /repo now: more files, or
    as many files and a smaller entry-file name -/
theorem max_project_shape :
    Gen.maxProjectCond =
      "ok && (len(tmpSecond.AllFiles) > maxFileNum || (len(tmpSecond.AllFiles) == maxFileNum && secondProject != nil && tmpSecond.EntryFile < secondProject.EntryFile))" := by
  rfl
#print axioms max_project_shape

/-- findMaxSecondProject: one pass over the candidates keeping the best one so far -/
def pickBest {α : Type} (le : α → α → Bool) (l : List α) (init : Option α) : Option α :=
  l.foldl (fun b x => match b with
    | none => some x
    | some y => if le y x then some y else some x) init

theorem pickBest_cons_some {α : Type} (le : α → α → Bool) (a y : α) (r : List α) :
    pickBest le (a :: r) (some y) = pickBest le r (if le y a then some y else some a) :=
  rfl

theorem pickBest_spec {α : Type} (le : α → α → Bool)
    (htot : ∀ a b, (le a b || le b a) = true) (htrans : ∀ a b c, le a b = true → le b c = true → le a c = true)
    (l : List α) (y : α) :
    ∃ m, pickBest le l (some y) = some m ∧ (m = y ∨ m ∈ l) ∧ le m y = true ∧ ∀ x ∈ l, le m x = true := by
  induction l generalizing y with
  | nil => exact ⟨y, rfl, .inl rfl, by simpa using htot y y, nofun⟩
  | cons a r ih =>
    rw [pickBest_cons_some]
    split
    next h =>
      -- y stays the best so far
      obtain ⟨m, hm, hmem, hmy, hmr⟩ := ih y
      exact ⟨m, hm, hmem.imp_right (List.mem_cons_of_mem a), hmy, List.forall_mem_cons.mpr ⟨htrans m y a hmy h, hmr⟩⟩
    next h =>
      -- a replaces y, and is below it by totality
      have hay : le a y = true := by simpa [h] using htot y a
      obtain ⟨m, hm, hmem, hma, hmr⟩ := ih a
      exact ⟨m, hm, .inr (List.mem_cons.mpr hmem), htrans m a y hma hay, List.forall_mem_cons.mpr ⟨hma, hmr⟩⟩

theorem pickBest_cons_least {α : Type} (le : α → α → Bool)
    (htot : ∀ a b, (le a b || le b a) = true) (htrans : ∀ a b c, le a b = true → le b c = true → le a c = true)
    (a : α) (r : List α) :
    ∃ m, pickBest le (a :: r) none = some m ∧ m ∈ a :: r ∧ ∀ x ∈ a :: r, le m x = true :=
  have ⟨m, hm, hmem, hma, hmr⟩ := pickBest_spec le htot htrans r a
  ⟨m, hm, List.mem_cons.mpr hmem, List.forall_mem_cons.mpr ⟨hma, hmr⟩⟩

/-- with a linear order (ties broken, as since the repair, by the entry-file name) the project picked does not depend on the
    order in which the map of projects is walked -/
theorem pickBest_order_independent {α : Type} (le : α → α → Bool)
    (htot : ∀ a b, (le a b || le b a) = true) (htrans : ∀ a b c, le a b = true → le b c = true → le a c = true)
    (hanti : ∀ a b, le a b = true → le b a = true → a = b) (l1 l2 : List α) (hp : l1.Perm l2) :
    pickBest le l1 none = pickBest le l2 none := by
  match l1, l2 with
  | [], _ => rw [← hp.nil_eq]
  | _ :: _, [] => cases hp.eq_nil
  | a :: r, b :: s =>
    -- both passes return a least element of the same elements, and two such are equal
    obtain ⟨m, hm, hmem, hmle⟩ := pickBest_cons_least le htot htrans a r
    obtain ⟨n, hn, hnem, hnle⟩ := pickBest_cons_least le htot htrans b s
    rw [hm, hn, hanti m n (hmle n (hp.symm.subset hnem)) (hnle m (hp.subset hmem))]
#print axioms pickBest_order_independent

/-- "more files first, then the smaller entry name": a project is (number of files, entry name) -/
def projLe {N : Type} [DecidableEq N] (nle : N → N → Bool) (a b : Nat × N) : Bool :=
  if a.1 ≠ b.1 then decide (a.1 > b.1) else nle a.2 b.2

theorem projLe_linOrd {N : Type} [DecidableEq N] (nle : N → N → Bool) (hn : LinOrd nle) : LinOrd (projLe nle) :=
  lexLe_natGt_linOrd hn
#print axioms projLe_linOrd

/-- C09 for `findMaxSecondProject` (repaired): the project that answers for a file does not depend on the order in which
    the map of projects is walked -/
theorem max_project_deterministic {N : Type} [DecidableEq N] (nle : N → N → Bool) (hn : LinOrd nle)
    (l1 l2 : List (Nat × N)) (hp : l1.Perm l2) : pickBest (projLe nle) l1 none = pickBest (projLe nle) l2 none :=
  let h := projLe_linOrd nle hn
  pickBest_order_independent _ h.total h.trans h.anti l1 l2 hp
#print axioms max_project_deterministic

/-- as it was (more files only, strict): two equally large projects — whichever is visited first stays -/
theorem max_project_tie_before :
    let le := fun (a b : Nat × Nat) => decide (a.1 ≥ b.1)
    pickBest le [(3, 1), (3, 2)] none = some (3, 1) ∧ pickBest le [(3, 2), (3, 1)] none = some (3, 2) := by decide
#print axioms max_project_tie_before

end LuaHelper.C09
