/-
C06 — "Find-references returns exactly the occurrences of the same variable".

Find-references = { o' | traversal-binding(o') = position-based-definition(query) }.  The
position-based half is C05's subject (Props/C05).  Here: LuaHelper's traversal-time binder
(`Bind.bindTraversal`, the insertion order of passes 1–4) IS Lua's binder (`Bind.bindChunk`, S-bind) —
for all programs, all nesting depths, by mutual structural recursion over the AST.  Before the repair
of cgLocalVarDeclStat this held only for programs without a multi-initialiser `local`
(`interleaved_local_differs` states the former finding C06-K2).
-/
import LuaHelper.Spec.Bind
import LuaHelper.Gen.Shapes
namespace LuaHelper.C06
open LuaHelper.Lex LuaHelper.Ast LuaHelper.Bind

/-- assignment targets depend on the variant only through their sub-expressions -/
theorem targets_congr (env : Env) (exps : List Exp) : (i : Nat) → (vs : List Exp) →
    (∀ v ∈ vs, bExp true env v = bExp false env v) →
    bTargets true env exps i vs = bTargets false env exps i vs
  | _, [], _ => rfl
  | i, v :: r, h => by
    have hr := targets_congr env exps (i + 1) r fun x hx => h x (List.mem_cons_of_mem v hx)
    have hv := h v List.mem_cons_self
    cases v <;> simp only [bTargets, hr, hv]

mutual
theorem tExp : (e : Exp) → (env : Env) → bExp true env e = bExp false env e
  | .noKey, _ | .nil _, _ | .tru _, _ | .fls _, _ | .vararg _, _ | .int _ _, _ | .flt _ _, _ | .str _ _, _
  | .name _ _, _ | .bad _, _ => rfl
  | .unop _ e _, env | .parens e _, env => by simp only [bExp, tExp e env]
  | .binop _ a b _, env | .index a b _, env => by simp only [bExp, tExp a env, tExp b env]
  | .table ks vs _, env => by simp only [bExp, tExps ks env, tExps vs env]
  | .func f, env => by simp only [bExp, tFunc f env]
  | .call p _ args _, env => by simp only [bExp, tExp p env, tExps args env]
theorem tExps : (es : List Exp) → (env : Env) → bExps true env es = bExps false env es
  | [], _ => rfl
  | e :: r, env => by simp only [bExps, tExp e env, tExps r env]
theorem tFunc : (f : FuncBody) → (env : Env) → bFunc true env f = bFunc false env f
  | .mk _ _ ps _ _ body _, env => by simp only [bFunc, tBlock body (pushParams env ps)]
theorem tBlock : (b : Block) → (env : Env) → bBlock true env b = bBlock false env b
  | .mk stats none _, env => by
    simp only [bBlock, tStats stats env]
  | .mk stats (some es) _, env => by
    have h1 := tStats stats env
    have h2 := tExps es (bStats false env stats).2
    simp only [bBlock, h1, h2]
theorem tStats : (ss : List Stat) → (env : Env) → bStats true env ss = bStats false env ss
  | [], _ => rfl
  | s :: r, env => by
    simp only [bStats, tStat s env]
    rw [tStats r _]
theorem tBlocks : (bs : List Block) → (env : Env) → bBlocks true env bs = bBlocks false env bs
  | [], _ => rfl
  | b :: r, env => by simp only [bBlocks, tBlock b env, tBlocks r env]
theorem tAll : (vs : List Exp) → (env : Env) → ∀ v ∈ vs, bExp true env v = bExp false env v
  | [], env => by intro v hv; cases hv
  | e :: r, env => by
    intro v hv
    cases hv with
    | head => exact tExp e env
    | tail _ hv' => exact tAll r env v hv'
theorem tStat : (s : Stat) → (env : Env) → bStat true env s = bStat false env s
  | .brk, _ | .label _ _, _ | .goto_ _ _, _ => rfl
  | .do_ b _, env => by simp only [bStat, tBlock b env]
  | .while_ c b _, env => by simp only [bStat, tExp c env, tBlock b env]
  | .repeat_ b c _, env => by
    simp only [bStat, tBlock b env, tExp c _]
  | .if_ cs bs _ _, env => by simp only [bStat, tExps cs env, tBlocks bs env]
  | .fornum v vl i lim st b _, env => by
    simp only [bStat, tExp i env, tExp lim env, tExp st env, tBlock b _]
  | .forin ns es b _, env => by simp only [bStat, tExps es env, tBlock b _]
  | .assign vars exps _, env => by
    simp only [bStat, tExps exps env, targets_congr env exps 0 vars (tAll vars env)]
  | .local_ names exps sl, env => by
    simp only [bStat, tExps exps env]
  | .localfn n nl f _, env => by simp only [bStat, tFunc f _]
  | .callstat e, env => by simp only [bStat, tExp e env]
end

#print axioms targets_congr
#print axioms tExp
#print axioms tExps
#print axioms tFunc
#print axioms tBlock
#print axioms tStats
#print axioms tBlocks
#print axioms tAll
#print axioms tStat

/-- the order in `cgLocalVarDeclStat` as it stands in /repo now (regenerated on every run): one statement
    analyses the initialisers (cgExp), the following ones declare the names (AddLocVar) — no statement does both -/
theorem local_decl_order :
    Gen.localDeclCalls = ["cgExp", "AddLocVar", "AddLocVar,AddLocVar"] := rfl
#print axioms local_decl_order

/-- **The traversal binder is Lua's binder** on every chunk (any nesting, any shadowing, any number of
    initialisers). -/
theorem traversal_eq_spec (b : Block) : bindTraversal b = bindChunk b := by
  unfold bindTraversal bindChunk
  rw [tBlock b []]
#print axioms traversal_eq_spec

/-- what the repaired defect was (former finding C06-K2): `local a = 1; local a, b = 2, a` — Lua binds
    the last `a` to the FIRST declaration; the interleaved traversal bound it to the second. -/
theorem interleaved_local_differs :
    let l1 : Loc := ⟨1, 6, 1, 7⟩
    let l2 : Loc := ⟨2, 6, 2, 7⟩
    let names : List (Bytes × Loc × Nat) := [([97], l2, 0), ([98], ⟨2, 9, 2, 10⟩, 0)]
    let exps : List Exp := [.int 2 ⟨2, 13, 2, 14⟩, .name [97] ⟨2, 16, 2, 17⟩]
    let env : Env := [([97], l1)]
    (((bStat false env (.local_ names exps ⟨2, 0, 2, 17⟩)).1.find? (fun o => o.loc == ⟨2, 16, 2, 17⟩)).map (·.decl) = some (some l1)) ∧
    (((bLocalInterleaved ⟨2, 0, 2, 17⟩ env names exps).1.find? (fun o => o.loc == ⟨2, 16, 2, 17⟩)).map (·.decl) = some (some l2)) := by
  decide
#print axioms interleaved_local_differs

end LuaHelper.C06
