/-
C05 — "Go-to-definition follows Lua's lexical scoping".

What is proved here:
 * the Location predicates the position-based resolver is made of (`IsBeforeLoc`, `IsContainLoc`,
   `isInLocation`) are TRANSLATED from the Go source on every run (`Gen.Preds`) and proved equal to the
   ones the resolver model uses, for all arguments;
 * `position_test_exact` / `flat_scope_correct`: in one scope, for every declaration list (shadowing and
   re-declaration included) and EVERY cursor position, the position-based lookup (last declaration of that
   name that is before the cursor and whose position test succeeds) returns exactly the declaration Lua's
   scoping rule gives — the innermost earlier declaration whose declaring statement (loop header) has ended
   before the cursor, or the declaration whose own name the cursor is on. Before the repair 73bd950 (every
   local records the region in which it is not yet in scope) this held only outside a zone that was
   finding class C05-K1; `own_initialiser_invisible` is the former witness of that class.
 * `chain_scope_correct`: the same along any chain of enclosing scopes (any depth, shadowing across blocks);
 * `chainIn_path` / `scopePath_ends`: for EVERY scope tree — any depth, sub-scopes in any order and even
   overlapping — and every position, the model of `FindMinScope` returns a path of scopes whose Locs contain
   the position, starting at a scope none of whose sub-scopes contains it. The proof needs no ordering of the
   sub-scopes; attempting it for the code as it was (early exit at a sibling that starts after the cursor
   line) is what exposed the defect repaired by 24205bf (`unordered_siblings_witness`).
What is validated by correspondence only (see evidence): the scope TREE construction (which construct
opens a scope with which Loc, insertion order, ReferExp re-pointing), on every identifier occurrence of
generated programs against the real server.
-/
import LuaHelper.Model.Scope
import LuaHelper.Spec.Bind
import LuaHelper.Gen.Preds
import LuaHelper.Gen.Shapes
import LuaHelper.Proofs.Basic
namespace LuaHelper.C05
open LuaHelper.Lex LuaHelper.Scope

def toG (l : Loc) : Gen.GLoc := ⟨l.sl, l.sc, l.el, l.ec⟩

theorem isBeforeLoc_is_go (a b : Loc) : isBeforeLoc a b = Gen.isBeforeLoc (toG a) (toG b) := by
  unfold isBeforeLoc Gen.isBeforeLoc toG
  dsimp only
  cases decide (a.sl < b.sl) <;> cases (a.sl == b.sl && decide (a.sc ≤ b.sc)) <;> rfl
#print axioms isBeforeLoc_is_go

theorem isContainLoc_is_go (a b : Loc) : isContainLoc a b = Gen.isContainLoc (toG a) (toG b) := by
  unfold isContainLoc Gen.isContainLoc toG
  rfl
#print axioms isContainLoc_is_go

theorem isInLocation_is_go (l : Loc) (line col : Int) :
    isInLocation l line col = Gen.isInLocation (toG l) line col := by
  unfold isInLocation Gen.isInLocation toG
  dsimp only
  cases line == l.sl <;> cases line == l.el <;> rfl
#print axioms isInLocation_is_go

/-- the visibility test as it stands in /repo now (regenerated on every run): declared before the position; the
    owner exemption; inside the declaration region only on the declared name; the ReferExp switch for
    variables without a region — the shape `Scope.isCorrectPosition` is written after — and the lookup
    tries the declarations of a name from the last one backwards, scope by scope outwards -/
theorem visibility_code_shape :
    Gen.correctPositionShape =
      ["if !varInfo.Loc.IsBeforeLoc(loc) {return false}",
       "if !varInfo.DeclRegion.IsInitialLoc()&&ownerFlag {return true}",
       "if !varInfo.DeclRegion.IsInitialLoc() {if varInfo.DeclRegion.IsContainLoc(loc)&&!varInfo.Loc.IsContainLoc(loc) {return false};return true}",
       "typeswitch varInfo.ReferExp.(type)"] ∧
    Gen.findLocVarShape =
      ["if locInfoList==nil {if scope.Parent!=nil {return scope.Parent.findLocVar(name,loc,ownerFlag)};return nil,false}",
       "for i:=len(locInfoList.VarVec)-1;i>=0;i-- {if locVar.isCorrectPosition(loc,ownerFlag) {return locVar,true}}",
       "if scope.Parent!=nil {return scope.Parent.findLocVar(name,loc,ownerFlag)}",
       "return nil,false"] := ⟨by rfl, by rfl⟩
#print axioms visibility_code_shape

def pt (line col : Int) : Loc := ⟨line, col, line, col⟩

/-- strictly after the end of the declaration region -/
def afterRegion (r : Loc) (line col : Int) : Bool := r.el < line || (r.el == line && r.ec < col)

/-- the position is on the declared name (both ends included) -/
def onName (v : Var) (line col : Int) : Bool := isContainLoc v.loc (pt line col)

/-- Lua: a local is in scope once its declaring statement (for a loop variable: the loop header) has ended;
    the declared name itself denotes the variable; a parameter and a `local function` name are in scope from
    the name on (the enclosing scope tree confines them to the function body) -/
def visibleAt (v : Var) (line col : Int) : Bool :=
  match v.region with
  | some r => onName v line col || afterRegion r line col
  | none => isBeforeLoc v.loc (pt line col)

/-- well-formed declaration: the name is on one line and lies inside its region; without a region the
    variable is a parameter (no ReferExp) or a `local function` whose function expression contains the name -/
def wfVar (v : Var) : Prop :=
  v.loc.sl = v.loc.el ∧ v.loc.sc ≤ v.loc.ec ∧
  (match v.region with
   | some r => (r.sl < v.loc.sl ∨ (r.sl = v.loc.sl ∧ r.sc ≤ v.loc.sc)) ∧ (v.loc.el < r.el ∨ (v.loc.el = r.el ∧ v.loc.ec ≤ r.ec))
   | none => v.ref = .none ∨ ∃ fl, v.ref = .func fl ∧ isContainLoc fl v.loc = true)

/-- the order on (line, column) positions that the Location predicates decide -/
def posLe (l1 c1 l2 c2 : Int) : Prop := l1 < l2 ∨ (l1 = l2 ∧ c1 ≤ c2)

theorem isBeforeLoc_pt (a : Loc) (line col : Int) :
    isBeforeLoc a (pt line col) = true ↔ posLe a.sl a.sc line col := by
  unfold isBeforeLoc pt posLe
  simp

theorem isContainLoc_pt (a : Loc) (line col : Int) :
    isContainLoc a (pt line col) = true ↔ posLe a.sl a.sc line col ∧ posLe line col a.el a.ec := by
  unfold isContainLoc pt posLe
  simp only [Bool.if_false_left, Bool.if_true_right, Bool.and_eq_true, Bool.or_eq_true, Bool.not_eq_true',
    Bool.eq_false_iff, ne_eq, decide_eq_true_eq, beq_iff_eq, Bool.or_false, gt_iff_lt]
  omega

/-- the resolver's position test IS Lua's visibility rule, for every well-formed declaration and position -/
theorem position_test_exact (v : Var) (hwf : wfVar v) (line col : Int) :
    isCorrectPosition v (pt line col) = visibleAt v line col := by
  obtain ⟨hline, hcol, hreg⟩ := hwf
  unfold isCorrectPosition visibleAt
  cases hr : v.region with
  | some r =>
    simp only [hr] at hreg ⊢
    -- as propositions about the order of positions, where `omega` sees that the name lies inside its region
    rw [Bool.eq_iff_iff]
    simp only [onName, afterRegion, Bool.if_false_left, Bool.and_eq_true, Bool.or_eq_true,
      Bool.not_eq_true', Bool.eq_false_iff, ne_eq, isBeforeLoc_pt, isContainLoc_pt, posLe,
      decide_eq_true_eq, beq_iff_eq]
    omega
  | none =>
    simp only [hr] at hreg ⊢
    rcases hreg with h | ⟨fl, h, hc⟩
    · simp [h]
    · simp [h, hc]
#print axioms position_test_exact

/-- the resolver's lookup in one scope: last declaration of that name passing the position test -/
def modelFind (ds : List Var) (n : Bytes) (line col : Int) : Option Var :=
  ds.reverse.find? fun d => d.name == n && isCorrectPosition d (pt line col)

/-- Lua: the innermost (= last declared) visible declaration of that name -/
def specFind (ds : List Var) (n : Bytes) (line col : Int) : Option Var :=
  ds.reverse.find? fun d => d.name == n && visibleAt d line col

/-- **One scope.** For any declaration list (shadowing and re-declaration included) and EVERY cursor
    position, the position-based resolver returns Lua's binding. -/
theorem flat_scope_correct (ds : List Var) (hwf : ∀ d ∈ ds, wfVar d) (n : Bytes) (line col : Int) :
    modelFind ds n line col = specFind ds n line col :=
  Lists.find_congr fun d hd => by rw [position_test_exact d (hwf d (List.mem_reverse.1 hd))]
#print axioms flat_scope_correct

/-- the resolver along a chain of scopes (innermost first): the first scope that has a match wins -/
def modelFindChain (chain : List (List Var)) (n : Bytes) (line col : Int) : Option Var :=
  chain.findSome? fun ds => modelFind ds n line col

/-- Lua along the chain of enclosing blocks: the innermost visible declaration -/
def specFindChain (chain : List (List Var)) (n : Bytes) (line col : Int) : Option Var :=
  chain.findSome? fun ds => specFind ds n line col

/-- **Nested scopes.** For any chain of enclosing scopes (any depth, shadowing across blocks, a
    declaration of an outer block placed after the inner block) and EVERY cursor position, the
    position-based resolver returns Lua's binding. -/
theorem chain_scope_correct (chain : List (List Var)) (hwf : ∀ ds ∈ chain, ∀ d ∈ ds, wfVar d) (n : Bytes)
    (line col : Int) : modelFindChain chain n line col = specFindChain chain n line col :=
  Lists.findSome_congr fun ds hds => flat_scope_correct ds (hwf ds hds) n line col
#print axioms chain_scope_correct

/-- `ch` is a path of nested scopes from a scope none of whose sub-scopes contains the position up to `t`,
    every step going to a sub-scope whose Loc contains the position -/
inductive ScopePath (line col : Int) : Tree → List Tree → Prop
  | leaf (t : Tree) : (∀ c ∈ t.subs, isInLocation c.loc line col = false) → ScopePath line col t [t]
  | node (t c : Tree) (ch : List Tree) : c ∈ t.subs → isInLocation c.loc line col = true →
      ScopePath line col c ch → ScopePath line col t (ch ++ [t])

theorem ends_before_not_in (l : Loc) (line col : Int) (h : l.el < line) : isInLocation l line col = false := by
  simp [isInLocation, h]

mutual
/-- for EVERY scope tree (any depth, any order and overlap of sub-scopes) and every position, the model of
    `FindMinScope` returns a path of scopes that contain the position, ending where no sub-scope contains it -/
theorem chainIn_path (line col : Int) : (t : Tree) → ScopePath line col t (chainIn t line col)
  | .mk l vs subs => by
    unfold chainIn
    rcases scan_spec line col subs with ⟨h1, h2⟩ | ⟨c, hc, hin, ch, h1, h2⟩
    · rw [h1]; exact ScopePath.leaf _ (by simpa [Tree.subs] using h2)
    · rw [h1]; exact ScopePath.node _ c ch (by simpa [Tree.subs] using hc) hin h2
theorem scan_spec (line col : Int) : (subs : List Tree) →
    (scanSubs subs line col = none ∧ ∀ c ∈ subs, isInLocation c.loc line col = false) ∨
    (∃ c ∈ subs, isInLocation c.loc line col = true ∧ ∃ ch, scanSubs subs line col = some ch ∧ ScopePath line col c ch)
  | [] => Or.inl ⟨by unfold scanSubs; rfl, by simp⟩
  | s :: rest => by
    by_cases hin : isInLocation s.loc line col = true
    · have hel : ¬ s.loc.el < line := fun h => by rw [ends_before_not_in _ _ _ h] at hin; cases hin
      exact Or.inr ⟨s, List.mem_cons_self, hin, _, by simp [scanSubs, hel, hin], chainIn_path line col s⟩
    · -- a child that does not contain the position is passed over, whichever test says so
      have hskip : scanSubs (s :: rest) line col = scanSubs rest line col := by simp [scanSubs, hin]
      rw [hskip]
      rcases scan_spec line col rest with ⟨a, b⟩ | ⟨c, hc, hc', ch, a, b⟩
      · exact Or.inl ⟨a, List.forall_mem_cons.2 ⟨by simpa using hin, b⟩⟩
      · exact Or.inr ⟨c, List.mem_cons_of_mem _ hc, hc', ch, a, b⟩
end
#print axioms chainIn_path

/-- the innermost scope of the chain is one none of whose sub-scopes contains the position, the outermost is
    the scope the search started in, and the chain is never empty -/
theorem scopePath_ends (line col : Int) (t : Tree) (ch : List Tree) (h : ScopePath line col t ch) :
    ch.getLast? = some t ∧ ∃ m, ch.head? = some m ∧ ∀ c ∈ m.subs, isInLocation c.loc line col = false := by
  induction h with
  | leaf t hl => exact ⟨rfl, t, rfl, hl⟩
  | node t c ch _ _ hp ih =>
    obtain ⟨_, m, hm, hs⟩ := ih
    refine ⟨by simp, m, ?_, hs⟩
    cases ch with
    | nil => simp at hm
    | cons x r => simpa using hm
#print axioms scopePath_ends

/-- the Go function has exactly the control structure of the model `chainIn` / `scanSubs` (regenerated from
    scope_info.go on every run): the guard, the loop over SubScopes, "ends before the line → continue",
    "contains the position → recurse and stop", and nothing else — in particular no early exit -/
theorem find_min_scope_shape :
    Gen.findMinScopeShape = ["guard:!isInLocation(&scope.Loc,line,column)", "range:scope.SubScopes",
      "if:subScope.Loc.EndLine<line=>continue",
      "if:isInLocation(&subScope.Loc,line,column)=>minScope=subScope.FindMinScope(line,column);break"] := rfl
#print axioms find_min_scope_shape

/-- the scenario of the repaired defect (fix 24205bf): the sub-scopes are in traversal order — the step
    closure of a numeric for (lines 9-11) is listed before the limit closure (lines 7-9) — and the cursor is in
    the limit closure; the model with the early exit `StartLine > line` would stop at the first sibling -/
theorem unordered_siblings_witness :
    let limit : Tree := .mk ⟨7, 12, 9, 3⟩ [] []
    let step : Tree := .mk ⟨9, 10, 11, 3⟩ [] []
    let root : Tree := .mk ⟨1, 0, 14, 3⟩ [] [step, limit]
    (findMinChain root 8 9).map (fun ch => ch.map (·.loc)) = some [⟨7, 12, 9, 3⟩, ⟨1, 0, 14, 3⟩] := by
  decide
#print axioms unordered_siblings_witness

/-- the former finding C05-K1, now an instance of `flat_scope_correct`: `local x = 1` / `local x = x + 1`
    with the cursor on the right-hand `x` (line 2, column 10): the resolver answers the FIRST x, whose
    statement has ended; on its own name (column 6) and after its statement (line 3) the second x -/
theorem own_initialiser_invisible :
    let d1 : Var := { name := [120], loc := ⟨1, 6, 1, 7⟩, ref := .other, region := some ⟨1, 0, 1, 11⟩ }
    let d2 : Var := { name := [120], loc := ⟨2, 6, 2, 7⟩, ref := .other, region := some ⟨2, 0, 2, 15⟩ }
    (modelFind [d1, d2] [120] 2 10).map (·.loc) = some ⟨1, 6, 1, 7⟩ ∧
    (modelFind [d1, d2] [120] 2 6).map (·.loc) = some ⟨2, 6, 2, 7⟩ ∧
    (modelFind [d1, d2] [120] 3 6).map (·.loc) = some ⟨2, 6, 2, 7⟩ := by
  decide
#print axioms own_initialiser_invisible

/-- non-vacuity of the well-formedness hypothesis -/
example : wfVar { name := [120], loc := ⟨2, 6, 2, 7⟩, ref := .other, region := some ⟨2, 0, 2, 15⟩ } := by
  simp [wfVar]

end LuaHelper.C05
