/-
C07 — "Undefined-variable and unused-local warnings agree with the actual bindings".

The diagnostics are functions of the binding computed by LuaHelper's traversal (passes 1–3):
  unused(d)    ⇔ d is declared by a `local` statement and no READ is bound to d        (type 4)
  undefined(o) ⇔ o is a read bound to no local, and no file assigns a global of that name (type 2)
Here: these two sets computed from the traversal binder equal the ones computed from S-bind (Lua's
scoping) on every chunk — a corollary of `C06.traversal_eq_spec`, for all programs and nesting
depths — and the two clauses "a bound name is
never reported undefined" / "a read local is never reported unused" hold by construction.  The
documented exemptions and the suppression idioms (classes K1, K2) are applied by the harness on the
concrete diagnostics and are not part of these definitions.
-/
import LuaHelper.Props.C06
namespace LuaHelper.C07
open LuaHelper.Lex LuaHelper.Ast LuaHelper.Bind

/-- reads (not declarations, not assignment targets) bound to declaration `d` -/
def readsOf (occs : List Occ) (d : Loc) : List Occ :=
  occs.filter fun o => !o.isDecl && !o.isWrite && o.decl == some d

/-- unused locals: declared by a `local` statement, not named `_`, never read -/
def unusedDecls (occs : List Occ) : List Occ :=
  occs.filter fun o => o.isDecl && o.dk == "L" && o.name != [95] && (readsOf occs o.loc).isEmpty

/-- reads of names that no local binds and no assignment in the chunk defines -/
def undefinedReads (occs : List Occ) : List Occ :=
  occs.filter fun o => !o.isDecl && !o.isWrite && o.decl.isNone &&
    !(occs.any fun w => w.isWrite && w.decl.isNone && w.name == o.name)

theorem unused_traversal_eq_spec (b : Block) :
    unusedDecls (bindTraversal b) = unusedDecls (bindChunk b) := by
  rw [C06.traversal_eq_spec b]
#print axioms unused_traversal_eq_spec

theorem undefined_traversal_eq_spec (b : Block) :
    undefinedReads (bindTraversal b) = undefinedReads (bindChunk b) := by
  rw [C06.traversal_eq_spec b]
#print axioms undefined_traversal_eq_spec

theorem unusedDecls_iff (occs : List Occ) (d : Occ) :
    d ∈ unusedDecls occs ↔
      d ∈ occs ∧ d.isDecl = true ∧ d.dk = "L" ∧ d.name ≠ [95] ∧
      ∀ r ∈ occs, ¬ (r.isDecl = false ∧ r.isWrite = false ∧ r.decl = some d.loc) := by
  unfold unusedDecls readsOf
  simp only [List.mem_filter, Bool.and_eq_true, List.isEmpty_iff, List.filter_eq_nil_iff, bne_iff_ne, ne_eq,
    beq_iff_eq, Bool.not_eq_true', not_and, and_assoc]
#print axioms unusedDecls_iff

/-- "A read local is never reported unused" -/
theorem read_never_unused (occs : List Occ) (d r : Occ) (hd : d ∈ unusedDecls occs) (hr : r ∈ occs)
    (hread : r.isDecl = false ∧ r.isWrite = false ∧ r.decl = some d.loc) : False :=
  ((unusedDecls_iff occs d).1 hd).2.2.2.2 r hr hread
#print axioms read_never_unused

/-! ## Workspace level: "no file of the workspace defines a global of that name"

A workspace is a list of files, each given by its binder output.  `wsDefines` is the set the third
pass consults (every global assignment of every file, wherever it is nested); `wsUndefined` is the
type-2 set of one file of that workspace with the built-in / configured-ignored names `ign`.  The
theorems are the "exactly when" of the statement and its consequences for every workspace: the set
does not depend on the order in which the files were scanned, a file that is added can only remove
reports, and providing a definition anywhere removes exactly the reports of that name. -/

/-- some file assigns a global called `n` -/
def wsDefines (files : List (List Occ)) (n : Bytes) : Bool :=
  files.any fun f => f.any fun w => w.isWrite && w.decl.isNone && w.name == n

/-- type 2 in file `f` of workspace `files` with ignored names `ign` -/
def wsUndefined (files : List (List Occ)) (ign : List Bytes) (f : List Occ) : List Occ :=
  f.filter fun o => !o.isDecl && !o.isWrite && o.decl.isNone && !wsDefines files o.name && !ign.contains o.name

/-- the statement's "exactly when" -/
theorem wsUndefined_iff (files : List (List Occ)) (ign : List Bytes) (f : List Occ) (o : Occ) :
    o ∈ wsUndefined files ign f ↔
      o ∈ f ∧ o.isDecl = false ∧ o.isWrite = false ∧ o.decl = none ∧
      (∀ g ∈ files, ∀ w ∈ g, ¬ (w.isWrite = true ∧ w.decl = none ∧ w.name = o.name)) ∧ o.name ∉ ign := by
  unfold wsUndefined wsDefines
  simp only [List.mem_filter, Bool.and_eq_true, Bool.not_eq_true', List.any_eq_false, List.any_eq_true,
    Option.isNone_iff_eq_none, beq_iff_eq, List.contains_eq_mem, decide_eq_false_iff_not, not_exists, not_and,
    and_assoc]
#print axioms wsUndefined_iff

/-- with a single file and nothing ignored this is the single-file set above -/
theorem wsUndefined_single (f : List Occ) : wsUndefined [f] [] f = undefinedReads f := by
  unfold wsUndefined undefinedReads wsDefines
  simp
#print axioms wsUndefined_single

/-- "A bound name is never reported undefined" -/
theorem bound_never_undefined (occs : List Occ) (o : Occ) (ho : o ∈ undefinedReads occs) : o.decl = none :=
  ((wsUndefined_iff [occs] [] occs o).1 (wsUndefined_single occs ▸ ho)).2.2.2.1
#print axioms bound_never_undefined

theorem wsDefines_perm {fs gs : List (List Occ)} (h : fs.Perm gs) (n : Bytes) : wsDefines fs n = wsDefines gs n :=
  h.any_eq

/-- the reports of a file do not depend on the order in which the workspace's files were scanned -/
theorem wsUndefined_scan_order {fs gs : List (List Occ)} (h : fs.Perm gs) (ign : List Bytes) (f : List Occ) :
    wsUndefined fs ign f = wsUndefined gs ign f := by
  unfold wsUndefined
  congr 1; funext o
  rw [wsDefines_perm h]
#print axioms wsUndefined_scan_order

/-- adding a file never adds a report to another file … -/
theorem wsUndefined_add_file (fs : List (List Occ)) (g : List Occ) (ign : List Bytes) (f : List Occ) (o : Occ)
    (ho : o ∈ wsUndefined (g :: fs) ign f) : o ∈ wsUndefined fs ign f := by
  rw [wsUndefined_iff] at ho ⊢
  obtain ⟨a, b, c, d, e, i⟩ := ho
  exact ⟨a, b, c, d, fun g' hg' => e g' (List.mem_cons_of_mem _ hg'), i⟩
#print axioms wsUndefined_add_file

/-- … and it removes exactly the reports of the names it assigns -/
theorem wsUndefined_provider (fs : List (List Occ)) (g : List Occ) (ign : List Bytes) (f : List Occ) :
    wsUndefined (g :: fs) ign f =
      (wsUndefined fs ign f).filter fun o => !(g.any fun w => w.isWrite && w.decl.isNone && w.name == o.name) := by
  unfold wsUndefined wsDefines
  rw [List.filter_filter]
  congr 1; funext o
  simp only [List.any_cons, Bool.not_or]
  ac_rfl
#print axioms wsUndefined_provider

/-- a name that is ignored (built in, or listed in luahelper.json) is never reported, whatever the files say -/
theorem ignored_never_undefined (files : List (List Occ)) (ign : List Bytes) (f : List Occ) (o : Occ)
    (ho : o ∈ wsUndefined files ign f) : o.name ∉ ign := ((wsUndefined_iff files ign f o).1 ho).2.2.2.2.2
#print axioms ignored_never_undefined

/-- non-vacuity: two files, the second provides `g`; the read of `g` in the first is reported alone, not together -/
example :
    let rd : Occ := { name := [103], loc := ⟨1, 0, 1, 1⟩, decl := none }
    let wr : Occ := { name := [103], loc := ⟨1, 0, 1, 1⟩, decl := none, isWrite := true }
    wsUndefined [[rd]] [] [rd] = [rd] ∧ wsUndefined [[wr], [rd]] [] [rd] = [] := by
  decide

/-- a write alone does not make a local used (the assignment is what type 17 reports) -/
theorem write_does_not_use (occs : List Occ) (d w : Occ) (hd : d ∈ unusedDecls occs) (hw : w.isWrite = true) :
    d ∈ unusedDecls (occs ++ [w]) := by
  rw [unusedDecls_iff] at hd ⊢
  obtain ⟨a, b, c, e, h⟩ := hd
  refine ⟨List.mem_append_left _ a, b, c, e, ?_⟩
  intro r hr
  rcases List.mem_append.1 hr with hr | hr
  · exact h r hr
  · rw [List.mem_singleton.1 hr, hw]
    exact fun hc => Bool.noConfusion hc.2.1
#print axioms write_does_not_use

end LuaHelper.C07
