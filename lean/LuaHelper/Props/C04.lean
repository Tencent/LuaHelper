/-
C04 — "Every reported range lies in the document and covers exactly the thing it names".

A range sent to the client is `LocToRange(Loc)` of a token Loc (identifiers: NameExp / parameter /
local / key Locs are the token's `GetNowTokenLoc`).  Proved here, against definitions TRANSLATED from
the Go source on every run (`Gen.Preds`):
 * `locToRange_spec`  : LocToRange is "line − 1, columns unchanged" — so a range is exact iff the Loc is;
 * `range_of_wellformed_loc` : start ≤ end is preserved;
 * the character classes the lexer model uses are the Go functions (`isDigit`, `isLetter`, …);
 * the model's Loc functions compose as in Go (`GetRangeLoc`, `GetRangeLocExcludeEnd`).
NOT proved (partial): the unbounded statement "for every input the lexer model's identifier Loc is
the true (line, UTF-16 column) of its bytes outside classes K4, K5 (K1 escapes and K2 long brackets were repaired)".  It is checked instead on every
identifier of every generated document by comparing the model (= real lexer, by correspondence) with
S-col (Spec/Col.lean), the classes being decidable predicates of the line prefix.
-/
import LuaHelper.Model.Parser
import LuaHelper.Spec.Col
import LuaHelper.Gen.Preds
namespace LuaHelper.C04
open LuaHelper.Lex

theorem locToRange_spec (l : Gen.GLoc) :
    Gen.locToRange l = { Start := { Line := l.StartLine - 1, Character := l.StartColumn },
                         End := { Line := l.EndLine - 1, Character := l.EndColumn } } := rfl
#print axioms locToRange_spec

/-- a well-formed Loc (start ≤ end, 1-based lines) gives a well-formed 0-based range -/
theorem range_of_wellformed_loc (l : Gen.GLoc) (h1 : 1 ≤ l.StartLine)
    (h : l.StartLine < l.EndLine ∨ (l.StartLine = l.EndLine ∧ l.StartColumn ≤ l.EndColumn)) :
    let r := Gen.locToRange l
    0 ≤ r.Start.Line ∧ (r.Start.Line < r.End.Line ∨ (r.Start.Line = r.End.Line ∧ r.Start.Character ≤ r.End.Character)) := by
  simp only [Gen.locToRange]
  omega
#print axioms range_of_wellformed_loc

def b2i (c : UInt8) : Int := c.toNat

/-- Go compares the byte as an `int`: order and equality of bytes are those of their values -/
theorem b2i_le (c d : UInt8) : (c ≤ d) = (b2i c ≤ b2i d) := by
  simp only [b2i, UInt8.le_iff_toNat_le, Int.ofNat_le]

theorem b2i_beq (c d : UInt8) : (c == d) = (b2i c == b2i d) := by
  rw [Bool.eq_iff_iff]
  simp only [b2i, beq_iff_eq, Int.ofNat_inj, UInt8.toNat_inj]

-- once the comparisons are moved to `Int`, both sides are the same expression (`b2i 48` evaluates to `48`)
theorem isDigit_is_go (c : UInt8) : Lex.isDigit c = Gen.isDigit (b2i c) := by
  simp only [Lex.isDigit, ge_iff_le, b2i_le]; rfl
#print axioms isDigit_is_go

theorem isLetter_is_go (c : UInt8) : Lex.isLetter c = Gen.isLetter (b2i c) := by
  simp only [Lex.isLetter, ge_iff_le, b2i_le]; rfl
#print axioms isLetter_is_go

theorem isHexDigit_is_go (c : UInt8) : Lex.isHexDigit c = Gen.isHexDigit (b2i c) := by
  simp only [Lex.isHexDigit, ge_iff_le, b2i_le]; rfl

theorem isNewLine_is_go (c : UInt8) : Lex.isNewLine c = Gen.isNewLine (b2i c) := by
  simp only [Lex.isNewLine, b2i_beq]; rfl
#print axioms isNewLine_is_go

theorem isWhiteSpace_is_go (c : UInt8) : Lex.isWhiteSpace c = Gen.isWhiteSpace (b2i c) := by
  simp only [Lex.isWhiteSpace, Gen.isWhiteSpace, b2i_beq, Bool.if_true_left, Bool.or_false, Bool.decide_eq_true]; rfl

/-- the five character classes of the lexer model are the Go functions, on every byte value -/
theorem char_classes_are_go :
    ∀ n : Fin 256,
      let c : UInt8 := UInt8.ofNat n.val
      Lex.isDigit c = Gen.isDigit (b2i c) ∧ Lex.isNewLine c = Gen.isNewLine (b2i c) ∧
      Lex.isWhiteSpace c = Gen.isWhiteSpace (b2i c) ∧ Lex.isLetter c = Gen.isLetter (b2i c) ∧
      Lex.isHexDigit c = Gen.isHexDigit (b2i c) :=
  fun _ => ⟨isDigit_is_go _, isNewLine_is_go _, isWhiteSpace_is_go _, isLetter_is_go _, isHexDigit_is_go _⟩
#print axioms char_classes_are_go

def toG (l : Loc) : Gen.GLoc := ⟨l.sl, l.sc, l.el, l.ec⟩

/-- `GetRangeLoc` / `GetRangeLocExcludeEnd` of the model = the Go functions -/
theorem rangeLoc_is_go (a b : Loc) : toG (Parse.rangeLoc a b) = Gen.getRangeLoc (toG a) (toG b) := rfl
#print axioms rangeLoc_is_go

theorem rangeLocExcl_is_go (a b : Loc) : toG (Parse.rangeLocExcl a b) = Gen.getRangeLocExcludeEnd (toG a) (toG b) := rfl
#print axioms rangeLocExcl_is_go

/-- after the repair of the string column advance: behind `"a\nb"` (an escape inside a short string) the
    identifier is reported at its true column (former class K1) -/
theorem escape_columns_exact :
    let src : Bytes := bytesOfString "s = \"a\\nb\" x"
    let toks := (lexAll src []).1
    (toks.filter (fun t => t.tok.kind == .ident)).map (fun t => (t.tok.from_ - t.tok.lineStart, (Col.posOfOffset src t.tok.offFrom).2)) =
      [(0, 0), (11, 11)] := by
  decide +kernel
#print axioms escape_columns_exact

/-- after the repair of the long-bracket line start (former class K2): behind a long string or a long comment —
    on one line, or on the line where a multi-line one ends, with non-ASCII text in it — the identifier is
    reported at its true column -/
theorem long_bracket_columns_exact :
    let idCols := fun (src : Bytes) =>
      (((lexAll src []).1.filter (fun t => t.tok.kind == .ident)).map
        (fun t => (t.tok.from_ - t.tok.lineStart, (Col.posOfOffset src t.tok.offFrom).2)))
    idCols (bytesOfString "s = [[ab]] x") = [(0, 0), (11, 11)] ∧
    idCols (bytesOfString "f(--[[int]] a, --[==[s]==] b)") = [(0, 0), (12, 12), (27, 27)] ∧
    idCols ([115, 32, 61, 32, 91, 91, 97, 10, 98, 0xE4, 0xB8, 0xAD, 93, 93, 32, 120]) = [(0, 0), (5, 5)] := by
  decide +kernel
#print axioms long_bracket_columns_exact

def toGTok (t : Token) : Gen.GTok :=
  { line := t.line, lineStartPos := t.lineStart, rangeFromPos := t.from_, rangeToPos := t.to,
    startLine := t.sline, startLineStartPos := t.slineStart }

/-- the model's token location rule IS the Go function `tokenLoc` (translated from the source on every run): every
    Loc the lexer hands out — GetNowTokenLoc, GetHeardTokenLoc, GetPreTokenLoc — goes through it -/
theorem tokenLoc_is_go (t : Token) : toG (tokenLoc t) = Gen.tokenLoc (toGTok t) := by
  unfold tokenLoc Gen.tokenLoc toGTok toG
  by_cases h : t.lineStart > t.from_ <;> simp [h]
#print axioms tokenLoc_is_go

/-- the location rule of a token (`tokenLoc`, since the repair c8b21cc): under the bookkeeping facts the lexer
    maintains — the token begins on or before the line it ends on, at or behind the start of that line; it ends at
    or behind the start of its last line; a one-line token has from ≤ to; two positions on one line share its line
    start — the reported Loc has non-negative columns and its start is not behind its end, for one-line and for
    multi-line tokens alike -/
theorem tokenLoc_wellformed (t : Token) (h1 : t.sline ≤ t.line) (h2 : t.slineStart ≤ t.from_)
    (h3 : t.lineStart ≤ t.to) (h4 : t.from_ ≤ t.to) (h5 : t.sline = t.line → t.slineStart = t.lineStart) :
    let l := tokenLoc t
    0 ≤ l.sc ∧ 0 ≤ l.ec ∧ (l.sl < l.el ∨ (l.sl = l.el ∧ l.sc ≤ l.ec)) := by
  unfold tokenLoc
  split
  · dsimp only; omega
  · dsimp only; omega
#print axioms tokenLoc_wellformed

/-- the rule it replaced (start = the end of the PREVIOUS token + 1, on the previous token's line) was ill formed
    for a one-line long bracket behind a longer token: start column beyond the end column on the same line -/
theorem old_multiline_rule_ill_formed :
    let pre : Token := { valid := true, line := 3, lineStart := 40, from_ := 40, to := 52 }
    let now : Token := { valid := true, line := 3, lineStart := 60, from_ := 53, to := 59 }  -- lineStart moved behind "]]"
    let old : Loc := ⟨pre.line, pre.to - pre.lineStart + 1, now.line, now.to - now.lineStart⟩
    old.sl = old.el ∧ old.sc > old.ec := by decide
#print axioms old_multiline_rule_ill_formed

end LuaHelper.C04
