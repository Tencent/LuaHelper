/-
C14 — "Completion offers the names that are in scope at the cursor, and only those".

`GetCompleteVar` offers, in every scope of the chain from the cursor's smallest scope outwards, the
declarations that pass the position test of the resolver (`IsCorrectPosition`; since the repair 7e9e18b —
before it: every declaration that STARTS at or before the cursor, which offered 'local abc = ab|' its own
name, the former finding C14-K1).  For one declaration (`offered_iff_visible`) the test IS Lua's visibility
rule (Props/C05 `position_test_exact`).  For the whole chain of enclosing scopes and the typed prefix (any
depth, any number of declarations):
  * `chain_offers_every_visible` : every declaration of an enclosing scope that is visible under Lua's rule and
    whose name starts with the prefix is in the offered list;
  * `chain_offers_only_visible` : every offered declaration has the prefix, belongs to an enclosing scope and
    is visible — in particular a local declared later (`declared_later_not_offered`), a local inside its own
    declaring statement (`own_statement_not_offered`) and (because only enclosing scopes are in the chain) a
    local of a block that does not enclose the cursor, is never offered.
Which scopes form the chain (FindMinScope) is Props/C05 `chainIn_path`; the tree construction is validated by
correspondence.
-/
import LuaHelper.Props.C05
namespace LuaHelper.C14
open LuaHelper.Lex LuaHelper.Scope LuaHelper.C05

/-- `GetCompleteVar` as it stands in /repo now (regenerated on every run): per name of a scope, the last
    declaration that passes `IsCorrectPosition` is offered; then the parent scope -/
theorem complete_code_shape :
    Gen.completeVarShape =
      ["range scope.LocVarMap {if !IsCompleteNeedShow(strName,completeVar) {continue};if cache.ExistStr(strName) {continue};for index:=len(locInfoList.VarVec)-1;index>=0;index-- {if !locVar.IsCorrectPosition(loc) {continue};call:InsertCompleteVar;break}}",
       "if scope.Parent!=nil {}"] := by rfl
#print axioms complete_code_shape

/-- the per-scope candidate test of `GetCompleteVar` -/
def offered (d : Var) (line col : Int) : Bool := isCorrectPosition d (pt line col)

/-- Lua visibility for completion: the declaring statement has ended (a `local function` is visible
    inside its own body) -/
def visible (d : Var) (line col : Int) : Bool := visibleAt d line col

/-- a declaration is offered exactly when it is visible -/
theorem offered_iff_visible (d : Var) (hwf : wfVar d) (line col : Int) : offered d line col = visible d line col :=
  position_test_exact d hwf line col
#print axioms offered_iff_visible

/-- what `GetCompleteVar` collects walking the chain outwards, filtered by the typed prefix -/
def offeredChain (chain : List (List Var)) (pre : Bytes) (line col : Int) : List Var :=
  chain.flatMap fun ds => ds.filter fun d => offered d line col && pre.isPrefixOf d.name

theorem mem_offeredChain {chain : List (List Var)} {pre : Bytes} {line col : Int} {d : Var} :
    d ∈ offeredChain chain pre line col ↔
      (∃ ds ∈ chain, d ∈ ds) ∧ offered d line col = true ∧ pre.isPrefixOf d.name = true := by
  simp only [offeredChain, List.mem_flatMap, List.mem_filter, Bool.and_eq_true]
  exact ⟨fun ⟨ds, hds, hd, h⟩ => ⟨⟨ds, hds, hd⟩, h⟩, fun ⟨⟨ds, hds, hd⟩, h⟩ => ⟨ds, hds, hd, h⟩⟩

theorem chain_offers_every_visible (chain : List (List Var)) (hwf : ∀ ds ∈ chain, ∀ d ∈ ds, wfVar d)
    (pre : Bytes) (line col : Int) (ds : List Var) (hds : ds ∈ chain) (d : Var) (hd : d ∈ ds)
    (hv : visible d line col = true) (hp : pre.isPrefixOf d.name = true) :
    d ∈ offeredChain chain pre line col :=
  mem_offeredChain.2 ⟨⟨ds, hds, hd⟩, (offered_iff_visible d (hwf ds hds d hd) line col).trans hv, hp⟩
#print axioms chain_offers_every_visible

theorem chain_offers_only_visible (chain : List (List Var)) (hwf : ∀ ds ∈ chain, ∀ d ∈ ds, wfVar d)
    (pre : Bytes) (line col : Int) (d : Var) (h : d ∈ offeredChain chain pre line col) :
    (∃ ds ∈ chain, d ∈ ds) ∧ pre.isPrefixOf d.name = true ∧ visible d line col = true := by
  obtain ⟨⟨ds, hds, hd⟩, ho, hp⟩ := mem_offeredChain.1 h
  exact ⟨⟨ds, hds, hd⟩, hp, (offered_iff_visible d (hwf ds hds d hd) line col).symm.trans ho⟩
#print axioms chain_offers_only_visible

/-- a local declared after the cursor is never offered, whatever the chain -/
theorem declared_later_not_offered (chain : List (List Var)) (pre : Bytes) (line col : Int) (d : Var)
    (hlater : line < d.loc.sl ∨ (line = d.loc.sl ∧ col < d.loc.sc)) :
    d ∉ offeredChain chain pre line col := by
  intro h
  have ho := (mem_offeredChain.1 h).2.1
  unfold offered isCorrectPosition at ho
  -- the position test starts with `IsBeforeLoc`
  cases hb : isBeforeLoc d.loc (pt line col)
  · simp [hb] at ho
  · rw [isBeforeLoc_pt, posLe] at hb
    omega
#print axioms declared_later_not_offered

/-- the former finding C14-K1: `local abc = ab|` (cursor at column 14 of line 1, the end of the statement)
    no longer offers `abc`; on the next line it does -/
theorem own_statement_not_offered :
    let d : Var := { name := [97, 98, 99], loc := ⟨1, 6, 1, 9⟩, ref := .name ⟨1, 12, 1, 14⟩, region := some ⟨1, 0, 1, 14⟩ }
    offered d 1 14 = false ∧ offered d 2 0 = true := by decide
#print axioms own_statement_not_offered

end LuaHelper.C14
