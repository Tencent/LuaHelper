/-
C10 — "Requests that the transport runs concurrently are safe and serialisable".

* `single_lock_serialisable` (M-sync, Model/Sync.lean): for EVERY schedule of the dispatcher, if
  every handler body is bracketed by the one request mutex, the shared state and every handler's
  observations are those of the serial execution of the handlers in lock-acquisition order
  (mid-flight: plus the steps the lock holder has taken so far).  No two handlers ever interleave
  steps on the shared state (data-race freedom in the model's sense).
* `handlers_locked` ties that hypothesis to the code: it is checked over the table
  `Gen.handlers`, REGENERATED from lsp_server.go and the handler bodies on every run — a handler
  that touches the document cache / project / diagnostics maps / common.GConfig outside the mutex,
  or that would re-take the mutex while holding it, breaks this theorem.
* `unlocked_witness`: without the mutex two read-modify-write handlers lose an update — the
  discipline is necessary, not decoration.
* `structure_locks`: the per-structure locks used by the worker goroutines INSIDE one request (LRU cache of
  live syntax trees, directory cache, file-exist cache, first-phase result map, the analysis mutex) are,
  in the regenerated table `Gen.lockScopes`, held for the whole method body or released as often as taken;
  the three LRU methods reached from the worker pools hold their lock for the whole body.
What the model cannot exhibit: the Go memory model and an actual crash ("concurrent map read and
map write"); the harness supplies that witness with the race detector (DESIGN.md §5 C10).
-/
import LuaHelper.Proofs.Sync
import LuaHelper.Gen.Handlers
import LuaHelper.Gen.Sites
import LuaHelper.Gen.Locks
namespace LuaHelper.C10
open LuaHelper.Sync

variable {S O : Type}

/-- At every point of every schedule: finished handlers + the holder's progress = serial run. -/
theorem single_lock_serialisable (prog : Nat → List (Step S O)) (s0 : S) (n : Nat) (sched : List Nat) :
    let c := run prog s0 n sched
    match c.cur with
    | none => (c.st, c.obs) = serialRun prog c.order s0 (fun _ => [])
    | some (h, rem) =>
      ∃ done, prog h = done ++ rem ∧
        let p := serialRun prog c.order s0 (fun _ => [])
        (c.st, c.obs h) = runSteps done p.1 [] ∧ ∀ j, j ≠ h → c.obs j = p.2 j := by
  intro c
  have h : Sync.Inv prog s0 c := inv_run prog s0 n sched
  simp only [Sync.Inv] at h
  split
  · next hc => rwa [hc] at h
  · next i rem hc =>
    rw [hc] at h
    obtain ⟨done, hp, hst⟩ := h
    simp only [Prod.mk.injEq] at hst
    exact ⟨done, hp, by rw [hst.1, hst.2, upd_same], fun j hj => by rw [hst.2, upd_other _ _ _ _ hj]⟩
#print axioms single_lock_serialisable

/-- Quiescent corollary in the property's words: when no handler is in flight, the state and each
    answer equal those of *some sequential order of the same messages* (namely `order`). -/
theorem answers_equal_some_serial_order (prog : Nat → List (Step S O)) (s0 : S) (n : Nat)
    (sched : List Nat) (hq : (run prog s0 n sched).cur = none) :
    ∃ order : List Nat, ((run prog s0 n sched).st, (run prog s0 n sched).obs) =
      serialRun prog order s0 (fun _ => []) := by
  have h := single_lock_serialisable prog s0 n sched
  simp only [hq] at h
  exact ⟨_, h⟩
#print axioms answers_equal_some_serial_order

/-- lifecycle messages: `initialize` is answered before the client may send anything else, and
    `initialized` is a notification, which jrpc2 completes before it starts any later message -/
def lifecycle : List String := ["initialize", "initialized"]

/-- The lock discipline holds for every registered handler of the current source tree. -/
theorem handlers_locked :
    ∀ h ∈ Gen.handlers, h.method ∈ lifecycle ∨
      (h.unprotected = [] ∧ h.gconfigUnprotected = false ∧ h.relocks = []) := by
  -- `decide` on a string comparison makes the kernel unpack both literals to their UTF-8 bytes.  The table
  -- facts below are therefore evaluated by `simp only` with the list lemmas: `true_or`/`or_true` need only
  -- the comparisons that hold, and those hold by `rfl`.
  simp only [Gen.handlers, List.forall_mem_cons]
  simp only [lifecycle, List.mem_cons, true_or, or_true, and_self, List.not_mem_nil, false_imp_iff, implies_true]
#print axioms handlers_locked

/-- No code path releases or re-takes the request mutex other than through the canonical
    `Lock(); defer Unlock()` pair that opens a critical section (so a critical section, once
    entered, extends to the end of the handler - what `single_lock_serialisable` assumes). -/
theorem no_irregular_mutex_use : Gen.irregularMutexUse = [] := rfl
#print axioms no_irregular_mutex_use

/-- every LSP method the property quantifies over is registered (so the table covers them) -/
theorem handlers_cover :
    ∀ m ∈ ["textDocument/hover", "textDocument/definition", "textDocument/references",
           "textDocument/rename", "textDocument/documentSymbol", "workspace/symbol",
           "textDocument/completion", "textDocument/documentHighlight", "textDocument/documentColor",
           "textDocument/didChange", "textDocument/didSave", "textDocument/didOpen",
           "textDocument/didClose", "workspace/didChangeWatchedFiles",
           "workspace/didChangeConfiguration"],
      m ∈ Gen.handlers.map (·.method) := by
  simp only [Gen.handlers, List.map_cons, List.map_nil, List.mem_cons, forall_eq_or_imp, true_or, or_true,
    and_self, List.not_mem_nil, false_imp_iff, implies_true]
#print axioms handlers_cover

/-- Every per-structure mutex is used either for the whole method body (`Lock(); defer Unlock()` first) or in
    balanced Lock/Unlock pairs; the one reviewed exception locks conditionally for the first phase only.
    The LRU cache read by sibling worker goroutines locks the whole body of Get, Set and Remove. -/
theorem structure_locks :
    (∀ e ∈ Gen.lockScopes, e.2.2 = "whole" ∨ e.2.2 = "paired1" ∨ e.2.2 = "paired2" ∨
        e = ("check:AllProject.GetFirstFileStuct", "a.fileStructMutex", "other")) ∧
    (∀ m ∈ ["check/common:LRUCache.Get", "check/common:LRUCache.Set", "check/common:LRUCache.Remove"],
        (m, "lru.cacheMutex", "whole") ∈ Gen.lockScopes) := by
  simp only [Gen.lockScopes, List.forall_mem_cons]
  simp only [List.mem_cons, true_or, or_true, and_self, List.not_mem_nil, false_imp_iff, implies_true]
#print axioms structure_locks

theorem dispatcher_concurrency : Gen.concurrency = 4 := rfl
#print axioms dispatcher_concurrency

/-- The goroutines the server starts are exactly the reviewed ones (worker pools that hand results
    back over channels, directory walkers, telemetry): a new `go` statement invalidates the
    "handlers are the only concurrent actors" abstraction and must be reviewed. -/
theorem goroutines_expected :
    Gen.goSites = [
      ("check/check_first_hanlde.go", "firstCreateAndTraverseAst", "GoRoutineFirstWork"),
      ("check/check_lsp_references.go", "handleAllFilesReference", "GoRoutineFourFile"),
      ("check/check_lsp_symbol.go", "handleAllFilesSymbols", "goroutineFindSymbols"),
      ("check/check_second_project.go", "handleProjectEntryFileVec", "goSecondProject"),
      ("check/check_third_file.go", "handleFiles", "goThirdFile"),
      ("check/common/dir_manager.go", "GetDirFileList", "func"),
      ("check/common/dir_manager.go", "GetDirFileList", "getAllFile"),
      ("check/common/dir_manager.go", "getAllFile", "getAllFile"),
      ("get_online_req.go", "UDPReportOnline", "handleRecv"),
      ("initialize.go", "Initialize", "func"),
      ("initialize.go", "initialCheckProject", "UDPReportOnline")] := rfl
#print axioms goroutines_expected

/-! ### the discipline is necessary: lost update without the mutex -/

def rmwRead : Step Nat Nat := fun s => (s, s)            -- read shared counter
def rmwWrite (v : Nat) : Step Nat Nat := fun _ => (v, v) -- write back a value computed from the read

/-- two handlers that each do `x := x + 1` as read-then-write of the value they read (0) -/
def rmwProg : Nat → List (Step Nat Nat) := fun _ => [rmwRead, rmwWrite 1]

theorem unlocked_witness :
    (runU rmwProg 0 [0, 1, 0, 1]).st = 1 ∧           -- both read 0, both write 1: an update is lost
    (serialRun (fun _ => [rmwRead, fun s => (s + 1, s + 1)]) [0, 1] (0 : Nat) (fun _ => [])).1 = 2 :=
  ⟨rfl, rfl⟩
#print axioms unlocked_witness

/-- non-vacuity: a concrete 2-handler program under the mutex, interleaved picks, ends serial -/
example : (run (fun _ => [rmwRead, fun s => (s + 1, s + 1)]) (0 : Nat) 2 [0, 1, 0, 1, 0, 1, 0, 1, 1, 1, 1]).st = 2 :=
  rfl

end LuaHelper.C10
