/-
Worker-pool dispatch: the five parallel passes of the server (first-phase analysis, second-phase projects,
third-phase files, cross-file references, workspace symbols) hand their jobs to a pool of NumCPU+2 goroutines
with one scheme.  `dispatch_all` proves that the scheme (Model/Pool.lean) sends every job index exactly once
for every number of jobs and workers, whatever order the results arrive in; `pools_shape` pins the five loops
of the current source (regenerated table `Gen.workerPools`) to that scheme.  Used by the checks of C06
(references of a global visit every file), C09 and C19 (workspace symbols visit every file).
-/
import LuaHelper.Gen.Pools
import LuaHelper.Model.Pool
namespace LuaHelper.Pools

open LuaHelper.Pool in
theorem fm_some {f : Nat → Option Nat} (g : Nat → Nat) : ∀ (l : List Nat), (∀ x ∈ l, f x = some (g x)) →
    l.filterMap f = l.map g
  | [], _ => rfl
  | x :: r, h => by
    rw [List.filterMap_cons_some (h x List.mem_cons_self), List.map_cons,
      fm_some g r fun y hy => h y (List.mem_cons_of_mem x hy)]

open LuaHelper.Pool in
theorem fm_none {f : Nat → Option Nat} : ∀ (l : List Nat), (∀ x ∈ l, f x = none) → l.filterMap f = []
  | _, h => List.filterMap_eq_nil_iff.2 h

open LuaHelper.Pool in
/-- of `m + cor` results, the first `m` are answered by sending the jobs `cor, …, cor + m - 1`, the last `cor` by nothing -/
theorem refill_range (m cor : Nat) :
    (List.range (m + cor)).filterMap (refill (m + cor) cor) = (List.range m).map (cor + ·) := by
  have sent : ∀ x ∈ List.range m, refill (m + cor) cor x = some (cor + x) := fun x hx => by
    rw [refill, if_pos (Nat.add_lt_add_right (List.mem_range.1 hx) cor), Nat.add_comm]
  have stopped : ∀ x ∈ (List.range cor).map (m + ·), refill (m + cor) cor x = none := fun x hx => by
    obtain ⟨y, _, rfl⟩ := List.mem_map.1 hx
    exact if_neg (by omega)
  rw [List.range_add, List.filterMap_append, fm_some _ _ sent, fm_none _ stopped, List.append_nil]

open LuaHelper.Pool in
/-- with at most as many workers as jobs, every job index is dispatched exactly once, in increasing order -/
theorem dispatched_eq (n cor : Nat) (h : cor ≤ n) : dispatched n cor = List.range n := by
  obtain ⟨m, rfl⟩ := Nat.exists_eq_add_of_le' h
  rw [dispatched, initial, refill_range, Nat.add_comm m, List.range_add]
#print axioms dispatched_eq

open LuaHelper.Pool in
/-- the property for every number of files and of workers: no file is skipped, none is scanned twice -/
theorem dispatch_all (n workers : Nat) : dispatched n (clamp n workers) = List.range n := by
  apply dispatched_eq
  unfold clamp
  split <;> omega
#print axioms dispatch_all

/-- the same statement with an off-by-one refill index is false (the seeded change `wssymbol-refill-index`) -/
theorem dispatch_off_by_one_witness :
    (List.range 3 ++ (List.range 5).filterMap (fun r => if r + 3 < 5 then some (r + 3 - 1) else none)) ≠ List.range 5 := by
  decide
#print axioms dispatch_off_by_one_witness

/-- a dispatch loop has the shape of Model/Pool for the job-count expression `jobs` -/
def poolOk (p : Gen.Pool) (jobs : String) : Bool :=
  p.loopCond == "recvNum<" ++ jobs && p.guard == "recvNum+corNum<" ++ jobs && p.refillIdx == ["recvNum+corNum"] &&
  p.initBound == "<corNum" && p.initIdx == ["i"] && p.clamp == jobs ++ "<corNum=>corNum=" ++ jobs && p.incs == 2 && p.exits == 0

/-- the five dispatch loops of the current source are instances of the scheme `dispatch_all` is about -/
theorem pools_shape :
    (Gen.workerPools.map (·.func)) = ["firstCreateAndTraverseAst", "handleAllFilesReference", "handleAllFilesSymbols",
      "handleFiles", "handleProjectEntryFileVec"] ∧
    (List.zip Gen.workerPools ["len(filesList)", "listLen", "handleFileLen", "listLen", "vecLen"]).all
      (fun pj => poolOk pj.1 pj.2) = true := by
  -- `simp` compares equal literals by `rfl` and leaves the kernel only the `++`; `decide` would have it
  -- unpack every string to its UTF-8 bytes
  refine ⟨rfl, ?_⟩
  simp [Gen.workerPools, poolOk]
#print axioms pools_shape

/-- the per-project second pass: the step that writes state shared by ALL projects (the member tables of the first-pass
    symbols of globals: handleOtherFileInsertSub) is not among the calls of the worker, it is what the coordinator does
    after its receive loop — when every worker has reported (repair 3f5ac55: it used to run inside the workers and two of
    them writing one Go map killed the process) -/
theorem shared_member_tables_written_after_the_workers :
    "handleOtherFileInsertSub" ∉ Gen.secondPassWorkerCalls ∧ Gen.secondPassAfterLoopCalls = ["handleOtherFileInsertSub"] := by
  refine ⟨?_, rfl⟩
  simp [Gen.secondPassWorkerCalls]
#print axioms shared_member_tables_written_after_the_workers

/-- the third pass (scattered files of a project-mode workspace): the results are folded into the shared, unlocked
    AnalysisThird.FileErrorMap by recvThirdFile — called by the coordinator inside its receive loop, once per received
    result, and by no worker: the map has one writer for any number of workers and files -/
theorem third_pass_results_folded_by_the_coordinator :
    "recvThirdFile" ∉ Gen.thirdPassWorkerCalls ∧ Gen.thirdPassLoopCalls = ["recvThirdFile"] ∧
    Gen.thirdPassWorkerCalls = ["CreateAnalysisThirdFile", "handleOneFile"] := by
  refine ⟨?_, rfl, rfl⟩
  simp [Gen.thirdPassWorkerCalls]
#print axioms third_pass_results_folded_by_the_coordinator

end LuaHelper.Pools
