/-
C12 — "Definition, references, highlight and hover agree with each other".

The four features are two resolutions of the same occurrences:
  pos  : the position-based resolver (go-to-definition, hover)      — C05's subject
  trav : the binding recorded while the file is traversed           — C06's subject
  references(p) = highlight(p) = { o | trav o = pos p }
Proved here for ANY pair of resolutions over ANY occurrence list: the consistency clauses of C12 hold
at every position where the two resolutions agree, and they fail exactly through a disagreement —
so C12 reduces to `pos = trav`, which Props/C05 (`flat_scope_correct`) and Props/C06
(`traversal_eq_spec`) speak about (the two resolutions are parameters here: nothing in this file instantiates them).
The harness checks the clauses on the real server without any oracle (every identifier of generated
single-file programs, multi-file module workspaces and annotated aliases).
-/
import LuaHelper.Spec.Bind
namespace LuaHelper.C12
open LuaHelper.Lex LuaHelper.Bind

/-- the reference set of a query occurrence -/
def refs (occs : List Occ) (pos trav : Occ → Option Loc) (p : Occ) : List Occ :=
  occs.filter fun o => trav o == pos p

theorem mem_refs {occs : List Occ} {pos trav : Occ → Option Loc} {p o : Occ} :
    o ∈ refs occs pos trav p ↔ o ∈ occs ∧ trav o = pos p := by
  rw [refs, List.mem_filter, beq_iff_eq]

/-- clause (i): a returned reference at which the two resolutions agree resolves, via go-to-definition,
    to the same declaration as the query -/
theorem refs_resolve_alike (occs : List Occ) (pos trav : Occ → Option Loc) (p o : Occ)
    (ho : o ∈ refs occs pos trav p) (hagree : pos o = trav o) : pos o = pos p := by
  rw [hagree, (mem_refs.1 ho).2]
#print axioms refs_resolve_alike

/-- clause (i), converse: a reference that resolves differently is a position where the position-based
    resolver and the traversal disagree -/
theorem refs_disagree (occs : List Occ) (pos trav : Occ → Option Loc) (p o : Occ)
    (ho : o ∈ refs occs pos trav p) (hne : pos o ≠ pos p) : pos o ≠ trav o :=
  fun h => hne (refs_resolve_alike occs pos trav p o ho h)
#print axioms refs_disagree

/-- clause (ii): p is among the references of its own declaration d, provided the resolutions agree
    at p and the declaration resolves to itself -/
theorem self_in_refs_of_decl (occs : List Occ) (pos trav : Occ → Option Loc) (p d : Occ)
    (hp : p ∈ occs) (hagree : pos p = trav p) (hd : pos p = some d.loc) (hself : pos d = some d.loc) :
    p ∈ refs occs pos trav d :=
  mem_refs.2 ⟨hp, by rw [← hagree, hd, hself]⟩
#print axioms self_in_refs_of_decl

/-- clause (iii): highlight is the reference set restricted to the file — with one file, the same set -/
theorem highlight_eq_refs (occs : List Occ) (pos trav : Occ → Option Loc) (p : Occ) (inFile : Occ → Bool)
    (hall : ∀ o ∈ occs, inFile o = true) :
    (refs occs pos trav p).filter inFile = refs occs pos trav p :=
  List.filter_eq_self.2 fun o ho => hall o (mem_refs.1 ho).1
#print axioms highlight_eq_refs

/-- with agreement everywhere, every member of a reference set has that very reference set: whichever occurrence
    of a variable the user asks from, find-references answers with the same list (same order: the order of `occs`) -/
theorem refs_class (occs : List Occ) (pos trav : Occ → Option Loc) (hag : ∀ o ∈ occs, pos o = trav o)
    (p o : Occ) (ho : o ∈ refs occs pos trav p) : refs occs pos trav o = refs occs pos trav p := by
  rw [refs, refs_resolve_alike occs pos trav p o ho (hag o (mem_refs.1 ho).1), refs]
#print axioms refs_class

/-- hence "being a reference of" is symmetric and transitive on resolved
    occurrences: the reference sets partition the occurrences by declaration -/
theorem refs_symm (occs : List Occ) (pos trav : Occ → Option Loc) (hag : ∀ o ∈ occs, pos o = trav o)
    (p o : Occ) (hp : p ∈ occs) (ho : o ∈ refs occs pos trav p) : p ∈ refs occs pos trav o := by
  rw [refs_class occs pos trav hag p o ho]
  exact mem_refs.2 ⟨hp, (hag p hp).symm⟩
#print axioms refs_symm

/-- … and transitive: a reference of a reference is a reference -/
theorem refs_trans (occs : List Occ) (pos trav : Occ → Option Loc) (hag : ∀ o ∈ occs, pos o = trav o)
    (p o q : Occ) (ho : o ∈ refs occs pos trav p) (hq : q ∈ refs occs pos trav o) : q ∈ refs occs pos trav p :=
  refs_class occs pos trav hag p o ho ▸ hq
#print axioms refs_trans

/-- clause (iii) for workspaces of several files: highlight(p) is exactly the part of references(p) that lies in p's file -/
theorem highlight_iff (occs : List Occ) (pos trav : Occ → Option Loc) (p o : Occ) (inFile : Occ → Bool) :
    o ∈ (refs occs pos trav p).filter inFile ↔ o ∈ refs occs pos trav p ∧ inFile o = true := List.mem_filter
#print axioms highlight_iff

/-- computing the references per file and concatenating (what the server does: one traversal per file that can see the
    symbol) gives the references of the whole workspace, file by file -/
theorem refs_per_file (fa fb : List Occ) (pos trav : Occ → Option Loc) (p : Occ) :
    refs (fa ++ fb) pos trav p = refs fa pos trav p ++ refs fb pos trav p :=
  List.filter_append ..
#print axioms refs_per_file

/-- no occurrence is returned twice when the occurrence list has none twice -/
theorem refs_nodup (occs : List Occ) (pos trav : Occ → Option Loc) (p : Occ) (h : occs.Nodup) :
    (refs occs pos trav p).Nodup :=
  h.filter _
#print axioms refs_nodup

/-- hover's clause: an occurrence is presented as a local exactly when its definition is a local declaration -/
def hoverIsLocal (pos : Occ → Option Loc) (p : Occ) : Bool := (pos p).isSome

theorem hover_local_iff (pos : Occ → Option Loc) (p : Occ) :
    hoverIsLocal pos p = true ↔ ∃ d, pos p = some d :=
  Option.isSome_iff_exists
#print axioms hover_local_iff

/-- and every reference of p is presented the same way as p where the resolutions agree -/
theorem hover_same_on_refs (occs : List Occ) (pos trav : Occ → Option Loc) (p o : Occ)
    (ho : o ∈ refs occs pos trav p) (hagree : pos o = trav o) : hoverIsLocal pos o = hoverIsLocal pos p := by
  rw [hoverIsLocal, refs_resolve_alike occs pos trav p o ho hagree, hoverIsLocal]
#print axioms hover_same_on_refs

/-- the premises are satisfiable and the conclusion non-trivial: S-bind against itself on
    `local x = 1; print(x)`-like occurrence lists -/
example :
    let d : Occ := declOcc [120] ⟨1, 6, 1, 7⟩ ⟨1, 0, 1, 11⟩
    let u : Occ := { name := [120], loc := ⟨2, 6, 2, 7⟩, decl := some ⟨1, 6, 1, 7⟩ }
    refs [d, u] (·.decl) (·.decl) u = [d, u] := rfl

end LuaHelper.C12
