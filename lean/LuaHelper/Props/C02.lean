/-
C02 — "The server's copy of an open document always equals the client's text".
Property theorems only (helper lemmas: Proofs/Text.lean).  Model: Model/Text.lean (follows
lspcommon/util.go OffsetForPosition, lspcommon/file_cache.go, textdocument_file_request.go); spec: Spec/Lsp.lean.

Main statement (after the repair that made the position mapping follow LSP): for EVERY well-formed UTF-8
document, EVERY position and EVERY history, the model's position → offset mapping, its splice and its whole
open / change / save / close state machine coincide with the LSP text model — lines ended by LF, CR LF or a
lone CR, characters counted in UTF-16 code units (an astral character is two), a character beyond the end
of its line clamped to the line end, a position inside a surrogate pair clamped back; only a line that does
not exist is an error, and then the change is not applied by either side.
The three former finding classes (astral characters, lone CR, character beyond the end of line) are now
theorems: `astral_counts_two`, `lone_cr_ends_line`, `beyond_end_clamps`.
-/
import LuaHelper.Proofs.Text
namespace LuaHelper.C02
open LuaHelper.Text LuaHelper.Lsp LuaHelper.TextProofs

instance (c : Ch) : Decidable (Ch.cont c) := by cases c <;> unfold Ch.cont <;> exact inferInstance

/-- a well-formed UTF-8 document (what a conformant client holds) -/
def WF (doc : Bytes) : Prop :=
  ∃ cs : List Ch, (∀ x ∈ cs, x.wf) ∧ (∀ x ∈ cs, Ch.cont x) ∧ canon cs ∧ doc = encode cs

/-- position → offset used by every request and every edit (`OffsetForPosition`) agrees with LSP, for
    every position of every well-formed document. -/
theorem offset_refines (doc : Bytes) (p : Pos) (hwf : WF doc) :
    offsetForPosition doc p = specOffset doc p := by
  obtain ⟨cs, hw, hco, hc, rfl⟩ := hwf
  rw [specOffset_encode cs hw hc, position_spec cs hw hco hc]
#print axioms offset_refines

/-- (start, end) → offsets used by `ApplyContentChanges` agrees with LSP. -/
theorem range_refines (doc : Bytes) (sp ep : Pos) (hwf : WF doc) :
    offsetForStartAndEnd doc sp ep =
      (match specOffset doc sp, specOffset doc ep with
       | some s, some e => if e < s then OffRes.err else OffRes.ok s e
       | _, _ => OffRes.err) := by
  unfold offsetForStartAndEnd
  rw [offset_refines doc sp hwf, offset_refines doc ep hwf]
  cases specOffset doc sp <;> cases specOffset doc ep <;> rfl
#print axioms range_refines

/-- every ranged change of a batch is applied to a well-formed text (the text the *client* holds when it is
    applied) -/
def goodBatch : Bytes → List Change → Prop
  | _, [] => True
  | doc, ch :: more =>
    match ch.range with
    | none => goodBatch ch.text more
    | some _ => WF doc ∧ ∀ d, specApply doc [ch] = some d → goodBatch d more

theorem specOffset_le {doc : Bytes} (hwf : WF doc) {p : Pos} {e : Nat} (h : specOffset doc p = some e) :
    e ≤ doc.length := by
  obtain ⟨cs, hw, _, hc, rfl⟩ := hwf
  rw [specOffset_encode cs hw hc] at h
  have := spec_bounds h
  omega

/-- `ApplyContentChanges` = the LSP splice, for whole batches (later ranges refer to the text after the
    earlier changes), whatever the positions are. -/
theorem apply_refines (chs : List Change) : ∀ (doc : Bytes), goodBatch doc chs →
    applyChanges doc chs = specApply doc chs := by
  induction chs with
  | nil => intro doc _; rfl
  | cons ch more ih =>
    intro doc hg
    unfold goodBatch at hg
    unfold applyChanges specApply
    cases hr : ch.range with
    | none => rw [hr] at hg; exact ih _ hg
    | some se =>
      rw [hr] at hg
      obtain ⟨hwf, hnext⟩ := hg
      dsimp only
      rw [range_refines doc se.1 se.2 hwf]
      cases hs : specOffset doc se.1 with
      | none => rfl
      | some s =>
        cases he : specOffset doc se.2 with
        | none => rfl
        | some e =>
          by_cases hes : e < s
          · simp only [hes, if_true]
          · -- the model's extra test `e > doc.length` never fires on a well-formed text
            have hb : ¬ e > doc.length := Nat.not_lt.2 (specOffset_le hwf he)
            simp only [if_neg hes, if_neg (not_or.2 ⟨hb, hes⟩)]
            exact ih _ (hnext _ (by simp [specApply, hr, hs, he, hes]))
#print axioms apply_refines

/-- conformance of a whole history, relative to the client's documents -/
def goodHist : Cache → List Op → Prop
  | _, [] => True
  | c, op :: rest =>
    (match op with
     | .chg u chs => (match c.get u with | some doc => goodBatch doc chs | none => True)
     | _ => True) ∧ goodHist (specStep c op) rest

/-- After any sequence of didOpen / didChange / didSave / didClose, the server's cache (model) is
    the client's text (spec) — the first sentence of the property. -/
theorem history_refines (ops : List Op) : ∀ (c : Cache), goodHist c ops →
    ops.foldl step c = ops.foldl specStep c := by
  induction ops with
  | nil => intro c _; rfl
  | cons op rest ih =>
    intro c hg
    obtain ⟨hop, hrest⟩ := hg
    have hstep : step c op = specStep c op := by
      cases op with
      | opn u t => rfl
      | sav u t => rfl
      | cls u => rfl
      | chg u chs =>
        simp only [step, specStep]
        cases hget : c.get u with
        | none => rfl
        | some doc =>
          simp only [hget] at hop ⊢
          simp only [apply_refines chs doc hop]
          cases specApply doc chs <;> rfl
    simp only [List.foldl_cons, hstep]
    exact ih _ hrest

theorem history_refines_run (ops : List Op) (h : goodHist [] ops) : run ops = specRun ops :=
  history_refines ops [] h
#print axioms history_refines
#print axioms history_refines_run

/-! ### non-vacuity: the hypotheses are met by a non-trivial document -/

def demoChars : List Ch := [.ascii 97, .two 0xC3 0xA9, .crlf, .three 0xE4 0xB8 0xAD, .four 0xF0 0x9F 0x98 0x80, .cr, .ascii 98]
def demoDoc : Bytes := encode demoChars

theorem demo_wf : WF demoDoc :=
  ⟨demoChars, by decide, by decide, by simp [demoChars, canon], rfl⟩
#print axioms demo_wf

/-- `😀a`: position (0,2) is the offset of `a` — the astral character counts as two UTF-16 units -/
theorem astral_counts_two :
    offsetForPosition (encode [.four 0xF0 0x9F 0x98 0x80, .ascii 97]) ⟨0, 2⟩ = some 4 := by
  rw [position_spec _ (by decide) (by decide) (by simp [canon])]
  decide
#print axioms astral_counts_two

/-- `a\rb`: position (1,0) is the offset of `b` — a lone CR ends a line -/
theorem lone_cr_ends_line :
    offsetForPosition (encode [.ascii 97, .cr, .ascii 98]) ⟨1, 0⟩ = some 2 := by
  rw [position_spec _ (by decide) (by decide) (by simp [canon])]
  decide
#print axioms lone_cr_ends_line

/-- `a\nb`: position (0,5) is clamped to the end of line 0 -/
theorem beyond_end_clamps :
    offsetForPosition (encode [.ascii 97, .lf, .ascii 98]) ⟨0, 5⟩ = some 1 := by
  rw [position_spec _ (by decide) (by decide) (by simp [canon])]
  decide
#print axioms beyond_end_clamps

/-- a line that does not exist is the only error, on both sides -/
theorem missing_line_is_error :
    offsetForPosition (encode [.ascii 97, .lf, .ascii 98]) ⟨2, 0⟩ = none := by
  rw [position_spec _ (by decide) (by decide) (by simp [canon])]
  decide
#print axioms missing_line_is_error

end LuaHelper.C02
