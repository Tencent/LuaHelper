/-
C03 — "Syntax errors are reported exactly for text that is not valid Lua".

Structure of the argument (DESIGN.md §5 C03):
  implementation  =(correspondence, every run)=  M-parse / M-lex (Model/Parser.lean, Model/Lexer.lean)
  M-parse accept bit  =(grammar oracle on generated programs and mutants; theorems below)=  S-ebnf
This file holds (1) the obligations over tables REGENERATED from the Go source on every run — a new
or re-prioritised operator, a changed keyword, a changed block-end set breaks them; (2) soundness of
the generic recogniser used as oracle (`oracle_sound`, from `recog_sound_all` of Proofs/Grammar.lean): whatever it accepts is
derivable from the manual's grammar; (3) concrete witnesses of the finding class K1 (assignment targets) and of the
oracle's verdicts.  The unbounded theorems `parse_sound` / `parse_complete` for M-parse are NOT
proved yet (see `partial` in the evidence): the accept bit of M-parse is compared with S-ebnf by the
oracle on every generated case instead.
-/
import LuaHelper.Model.Parser
import LuaHelper.Spec.Grammar
import LuaHelper.Proofs.Grammar
import LuaHelper.Gen.Lexer
namespace LuaHelper.C03
open LuaHelper.Lex LuaHelper.Parse LuaHelper.Grammar

/-- the model's token kinds are the Go constants, in iota order -/
theorem token_kinds_match : TK.all.map TK.goName = Gen.tokenKinds := by rfl
#print axioms token_kinds_match

/-- the model's keyword table is the Go map `keywords` -/
theorem keywords_match : keywordTable.map (fun p => (p.1, p.2.goName)) = Gen.keywords := by rfl
#print axioms keywords_match

/-- the reserved words are exactly the 22 of the reference manual -/
theorem keywords_are_the_manuals :
    Gen.keywords.map (·.1) = ["and", "break", "do", "else", "elseif", "end", "false", "for", "function", "goto",
      "if", "in", "local", "nil", "not", "or", "repeat", "return", "then", "true", "until", "while"] := by rfl
#print axioms keywords_are_the_manuals

/-- `getPriority`: the model's function is the Go switch (aliases resolved), default 0 -/
theorem priority_match :
    Gen.priorityDefault = 0 ∧
    ∀ k ∈ TK.all, (priority k : Int) =
      ((Gen.priority.find? (·.1 == k.goName)).map (·.2)).getD Gen.priorityDefault := by decide +kernel
#print axioms priority_match

/-- every binary operator of the manual's grammar has a positive priority (so the precedence loop
    consumes it) and nothing else has -/
theorem binops_have_priority :
    (TK.all.filter fun k => priority k > 0).map TK.goName =
      ["TkOpMinus", "TkOpWave", "TkOpAdd", "TkOpMul", "TkOpDiv", "TkOpIdiv", "TkOpPow", "TkOpMod", "TkOpBand",
       "TkOpBor", "TkOpShr", "TkOpShl", "TkOpConcat", "TkOpLt", "TkOpLe", "TkOpGt", "TkOpGe", "TkOpEq", "TkOpNe",
       "TkOpAnd", "TkOpOr"] ∧
    Grammar.binops.length = 21 := ⟨by rfl, by rfl⟩
#print axioms binops_have_priority

/-- a block ends exactly at return / EOF / end / else / elseif / until -/
theorem block_end_match :
    Gen.isReturnOrBlockEnd = ["TkKwReturn", "TkEOF", "TkKwEnd", "TkKwElse", "TkKwElseif", "TkKwUntil"] ∧
    ∀ k ∈ TK.all, isBlockEnd k = Gen.isReturnOrBlockEnd.contains k.goName := by decide +kernel
#print axioms block_end_match

/-- spellings: every fixed token the model emits is spelled as in the Go table `tokenKinds` -/
theorem spelling_table_complete : Gen.tokenSpelling.map (·.1) = Gen.tokenKinds := by rfl
#print axioms spelling_table_complete

/-- `(a) = 1` and `a, f() = 1, 2` are not derivable, but are once targets are relaxed (class K1) -/
theorem K1_class_witness :
    recognise ["(", "Name", ")", "=", "Numeral"] = false ∧
    recogniseRelaxed ["(", "Name", ")", "=", "Numeral"] = true ∧
    recognise ["Name", ",", "Name", "(", ")", "=", "Numeral", ",", "Numeral"] = false ∧
    recogniseRelaxed ["Name", ",", "Name", "(", ")", "=", "Numeral", ",", "Numeral"] = true := by
  decide +kernel
#print axioms K1_class_witness

/-- SOUNDNESS OF THE ORACLE: a token string the recogniser accepts is derivable from the manual's
    grammar (`Derives`, Spec/Grammar.lean) — for every token string, by induction on the fuel of the
    four mutually recursive recognisers (Proofs/Grammar.lean).  So "the oracle says valid, the parser
    reports an error" is always a disagreement with the MANUAL, never an artefact of the oracle. -/
theorem oracle_sound (w : List String) (h : recognise w = true) : ValidChunk w := by
  obtain ⟨i, hi, v, hd, e⟩ :=
    (recog_sound_all w.toArray _).1 (.n "chunk") [0] w.length rfl (List.contains_iff_mem.mp h)
  cases List.mem_singleton.mp hi
  simp only [List.drop_zero, List.drop_length, List.append_nil] at e
  exact e ▸ hd
#print axioms oracle_sound

/-- non-vacuity of the oracle: a program using most productions is accepted, a one-token deletion not -/
theorem oracle_examples :
    recognise ["local", "Name", "=", "Numeral", "function", "Name", ".", "Name", ":", "Name", "(", "Name", ")",
      "return", "Name", "+", "Numeral", "end", "Name", ",", "Name", "=", "Name", "(", "Numeral", ")"] = true ∧
    recognise ["local", "Name", "=", "function", "Name", ".", "Name", ":", "Name", "(", "Name", ")",
      "return", "Name", "+", "Numeral", "end"] = false := by
  decide +kernel
#print axioms oracle_examples

end LuaHelper.C03
