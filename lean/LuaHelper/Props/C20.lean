/-
C20 — "Pattern-based semantic checks fire exactly where their pattern occurs".

Model: Model/Pat.lean (the ten first-pass checks + CompExp / GetExpName / GetTableConstuctorKeyStr /
IsOneValueType as written in the Go code), tied to the code by comparing, on programs with planted
instances and near-misses, the real diagnostics (type and range, as multisets) with the model's.
Proved here, for ALL expressions / parameter lists / statements:
 * `compExp_sound` + `compExp_floats` : the structural comparison used by "repeated if condition" (19) and
   "self-assignment" (20) only equates expressions that are identical up to source locations and the
   spelling of float numerals of equal value — no false positives; `compExp_refl`: it equates every
   function-free, constructor-free expression with itself — `x = x`, `a.b[1] = a.b[1]`,
   `if c then elseif c` are always caught; `else_not_compared`: the else branch is not a condition;
 * `dupKeys_exact` + `keyStr_same` : a type-5 report at a key ⇔ an earlier key of the constructor is the same
   constant key (the encodings of the kinds of key are injective and disjoint);
 * `dupParams_exact` : a type-13 report at parameter j ⇔ an earlier parameter has the same name (≠ "_");
 * `sameOperands_exact` : a type-14 report ⇔ comparison / and / or whose operands are the same access path
   (names, string keys, parentheses) up to locations and redundant parentheses;
 * `orTrue_exact`, `andFalse_exact`, `floatEq_exact` : reports of 15 / 16 / 21 at a binary node ⇔ the
   documented shape;
 * `assign_arity_exact`, `local_arity_exact` : 7 / 8 ⇔ more values than targets, or fewer values all of which are
   single-valued.
Finding (model = implementation ≠ property, `K1_witness`): identical operands that are not access paths are
not reported; the run-time check compares the model with the wider specification Spec/Pat.lean to tell this
class from anything else.  Type 5 is exact: `dupKeys_iff_spec` (boolean, float-by-value and unary-operator
keys were added by the repair of the former finding K2, `K2_repaired`, `K2_repaired_values`).
-/
import LuaHelper.Model.Pat
import LuaHelper.Proofs.Pat
import LuaHelper.Spec.Pat
import LuaHelper.Gen.Shapes
import LuaHelper.Proofs.Basic
namespace LuaHelper.C20
open LuaHelper.Lex LuaHelper.Ast LuaHelper.Pat

/-- where the ten pattern diagnostics are produced, as the code stands in /repo now (regenerated every
    run): each type is inserted by exactly the traversal function the model's `pExp` / `pStat` cases are
    written after (7 and 8 twice: too many / too few values) -/
theorem pattern_insert_sites :
    Gen.patternInserts =
      ["CheckErrorAndAlwaysFalse@cgBinopExp", "CheckErrorAssignParamNum@cgAssignStat", "CheckErrorAssignParamNum@cgAssignStat",
       "CheckErrorDuplicateExp@cgBinopExp", "CheckErrorDuplicateIf@cgIfStat", "CheckErrorDuplicateParam@checkDuplicateFunParam",
       "CheckErrorFloatEq@cgBinopExp", "CheckErrorLocalParamNum@cgLocalVarDeclStat", "CheckErrorLocalParamNum@cgLocalVarDeclStat",
       "CheckErrorOrAlwaysTrue@cgBinopExp", "CheckErrorSelfAssign@cgAssignStat", "CheckErrorTableDuplicateKey@cgTableConstructorExp"] := rfl
#print axioms pattern_insert_sites

mutual
/-- an expression with every source location replaced by the zero location and every float numeral by
    the empty text (the float numerals are listed by `floats`; functions, table constructors, `noKey` and
    `bad` are kept as they are: CompExp never equates them) -/
def erase : Exp → Exp
  | .nil _ => .nil zeroLoc | .tru _ => .tru zeroLoc | .fls _ => .fls zeroLoc | .vararg _ => .vararg zeroLoc
  | .int v _ => .int v zeroLoc | .flt _ _ => .flt [] zeroLoc | .str s _ => .str s zeroLoc
  | .unop o e _ => .unop o (erase e) zeroLoc
  | .binop o a b _ => .binop o (erase a) (erase b) zeroLoc
  | .name n _ => .name n zeroLoc
  | .parens e _ => .parens (erase e) zeroLoc
  | .index p k _ => .index (erase p) (erase k) zeroLoc
  | .call p m a _ => .call (erase p) (m.map fun (n, _) => (n, zeroLoc)) (erases a) zeroLoc
  | e => e
def erases : List Exp → List Exp
  | [] => []
  | e :: r => erase e :: erases r
end

theorem compExp_erase : (∀ a b, compExp a b = true → erase a = erase b) ∧
    (∀ as bs, compExps as bs = true → erases as = erases bs) := by
  apply compExp_induct
  case call =>
    intro p1 m1 a1 p2 m2 a2 l l' hm hp ha
    have : (m1.map fun (n, _) => (n, zeroLoc)) = (m2.map fun (n, _) => (n, zeroLoc)) := by
      rcases m1 with _ | ⟨n1, _⟩ <;> rcases m2 with _ | ⟨n2, _⟩ <;> simp_all
    simp only [erase, hp, ha, this]
  all_goals intros; simp only [erase, erases, *]

theorem compExp_sound : (a b : Exp) → compExp a b = true → erase a = erase b := compExp_erase.1
theorem compExps_sound : (a b : List Exp) → compExps a b = true → erases a = erases b := compExp_erase.2
#print axioms compExp_sound


mutual
/-- the float numerals of an expression, in source order -/
def floats : Exp → List Bytes
  | .flt t _ => [t]
  | .unop _ e _ => floats e
  | .binop _ a b _ => floats a ++ floats b
  | .parens e _ => floats e
  | .index p k _ => floats p ++ floats k
  | .call p _ a _ => floats p ++ floatss a
  | _ => []
def floatss : List Exp → List Bytes
  | [] => []
  | e :: r => floats e ++ floatss r
end

/-- pairwise equal values -/
def sameFloats : List Bytes → List Bytes → Prop
  | [], [] => True
  | x :: r, y :: s => fltEq x y = true ∧ sameFloats r s
  | _, _ => False

theorem sameFloats_append : ∀ (a b c d : List Bytes), sameFloats a b → sameFloats c d → sameFloats (a ++ c) (b ++ d)
  | [], [], _, _, _, h => h
  | _ :: r, _ :: s, c, d, h1, h2 => ⟨h1.1, sameFloats_append r s c d h1.2 h2⟩
  | [], _ :: _, _, _, h, _ => False.elim h
  | _ :: _, [], _, _, h, _ => False.elim h

theorem compExp_sameFloats : (∀ a b, compExp a b = true → sameFloats (floats a) (floats b)) ∧
    (∀ as bs, compExps as bs = true → sameFloats (floatss as) (floatss bs)) := by
  apply compExp_induct
  case flt => exact fun _ _ _ _ h => ⟨h, trivial⟩
  case parens | unop => intros; assumption
  case binop | index | call | cons => intros; apply sameFloats_append <;> assumption
  all_goals intros; trivial

/-- the float numerals of two expressions equated by CompExp have pairwise the same value — with
    `compExp_sound`: CompExp only equates expressions that are identical up to source locations and the
    spelling of float numerals of equal value (`1.5` / `1.50`) -/
theorem compExp_floats : (a b : Exp) → compExp a b = true → sameFloats (floats a) (floats b) := compExp_sameFloats.1
theorem compExps_floats : (a b : List Exp) → compExps a b = true → sameFloats (floatss a) (floatss b) :=
  compExp_sameFloats.2
#print axioms compExp_floats

/-- the value comparison is reflexive, and on decimal numerals it is equality of the rationals num / den -/
theorem fltEq_refl (t : Bytes) : fltEq t t = true := by
  unfold fltEq
  cases fltVal t with
  | none => simp
  | some v => obtain ⟨n, d⟩ := v; simp
#print axioms fltEq_refl

theorem fltEq_value (a b : Bytes) (n1 d1 n2 d2 : Nat) (ha : fltVal a = some (n1, d1)) (hb : fltVal b = some (n2, d2)) :
    fltEq a b = true ↔ n1 * d2 = n2 * d1 := by
  simp [fltEq, ha, hb]
#print axioms fltEq_value

/-- `1.5` and `1.50` are the same value, `0.1` and `0.1000001` are not (the former tolerance of 1e-6
    equated them), `1e2` is `100.0` -/
theorem fltEq_examples :
    fltEq [49, 46, 53] [49, 46, 53, 48] = true ∧                             -- 1.5, 1.50
    fltEq [48, 46, 49] [48, 46, 49, 48, 48, 48, 48, 48, 49] = false ∧        -- 0.1, 0.1000001
    fltEq [49, 101, 50] [49, 48, 48, 46, 48] = true ∧                        -- 1e2, 100.0
    fltEq [50, 53, 101, 45, 49] [50, 46, 53] = true := by decide             -- 25e-1, 2.5
#print axioms fltEq_examples

mutual
/-- expressions CompExp can compare: no function definition, table constructor, `noKey`, error node -/
def plain : Exp → Bool
  | .nil _ | .tru _ | .fls _ | .vararg _ | .int _ _ | .flt _ _ | .str _ _ | .name _ _ => true
  | .unop _ e _ => plain e
  | .binop _ a b _ => plain a && plain b
  | .parens e _ => plain e
  | .index p k _ => plain p && plain k
  | .call p _ a _ => plain p && plains a
  | _ => false
def plains : List Exp → Bool
  | [] => true
  | e :: r => plain e && plains r
end

mutual
theorem compExp_refl : (e : Exp) → plain e = true → compExp e e = true
  | .nil _, _ | .tru _, _ | .fls _, _ | .vararg _, _ | .int _ _, _ | .str _ _, _ | .name _ _, _ => by simp [compExp]
  | .flt t _, _ => by simp [compExp, fltEq_refl]
  | .unop _ e _, h | .parens e _, h => by simp [compExp, compExp_refl e h]
  | .binop _ a b _, h | .index a b _, h => by
    simp only [plain, Bool.and_eq_true] at h
    simp [compExp, compExp_refl a h.1, compExp_refl b h.2]
  | .call p m a _, h => by
    simp only [plain, Bool.and_eq_true] at h
    rcases m with _ | ⟨n, l⟩ <;> simp [compExp, compExp_refl p h.1, compExps_refl a h.2]
  | .noKey, h | .bad _, h | .func _, h | .table _ _ _, h => by cases h
theorem compExps_refl : (es : List Exp) → plains es = true → compExps es es = true
  | [], _ => rfl
  | e :: r, h => by
    simp only [plains, Bool.and_eq_true] at h
    simp [compExps, compExp_refl e h.1, compExps_refl r h.2]
end
#print axioms compExp_refl

/-- `v = v` is always reported as a self-assignment (type 20) when v is a plain expression -/
theorem self_assign_reported (v : Exp) (l : Loc) (h : plain v = true) :
    assignReps [v] [v] l = [{ ty := 20, loc := l }] := by
  simp [assignReps, compExp_refl v h]
#print axioms self_assign_reported

/-- what an assignment reports: type 7 for a wrong number of values, type 20 when every target is compared equal
    to its value -/
theorem mem_assignReps (vars exps : List Exp) (l : Loc) (r : Rep) :
    r ∈ assignReps vars exps l ↔
      (r = { ty := 7, loc := l } ∧
        (vars.length < exps.length ∨ (exps.length < vars.length ∧ exps.all isOneValue = true))) ∨
      (r = { ty := 20, loc := l } ∧ vars.length = exps.length ∧
        (vars.zip exps).all (fun p => compExp p.1 p.2) = true) := by
  unfold assignReps
  rcases Nat.lt_trichotomy vars.length exps.length with h | h | h
  · -- more values than targets: type 7
    simp [h, Nat.lt_asymm h, Nat.ne_of_lt h]
  · -- as many: type 20 if every target is its own value
    simp [h, Nat.lt_irrefl]
    exact and_comm
  · -- fewer values: type 7 if all of them are single-valued
    simp [h, Nat.lt_asymm h, Nat.ne_of_gt h]
    exact and_comm

/-- type 20 is reported only when every target is, up to locations, its own value -/
theorem self_assign_sound (vars exps : List Exp) (l : Loc) (r : Rep)
    (h : r ∈ assignReps vars exps l) (h20 : r.ty = 20) :
    vars.length = exps.length ∧ ∀ p ∈ vars.zip exps, erase p.1 = erase p.2 := by
  obtain ⟨rfl, _⟩ | ⟨_, hl, hz⟩ := (mem_assignReps vars exps l r).1 h
  · cases h20
  · exact ⟨hl, fun p hp => compExp_sound p.1 p.2 (List.all_eq_true.1 hz p hp)⟩
#print axioms self_assign_sound

theorem dupParams_exact (ps : List (Bytes × Loc)) (r : Rep) :
    r ∈ dupParams ps ↔
      ∃ i j ni li nj lj, (i : Nat) < (j : Nat) ∧ ps[i]? = some (ni, li) ∧ ps[j]? = some (nj, lj) ∧
        nj ≠ [95] ∧ nj = ni ∧ r = { ty := 13, loc := lj } := by
  simp only [dupParams, List.mem_flatMap, List.mem_range, List.mem_filterMap]
  constructor
  · rintro ⟨i, hi, j, hj, h⟩
    -- both indices are in range, so the `match` is on two parameters
    rw [List.getElem?_eq_getElem hi, List.getElem?_eq_getElem hj] at h
    simp only [Option.ite_none_right_eq_some, Option.some.injEq, Bool.and_eq_true, bne_iff_ne, beq_iff_eq] at h
    exact ⟨i, j, _, _, _, _, h.1, List.getElem?_eq_getElem hi, List.getElem?_eq_getElem hj, h.2.1.1, h.2.1.2,
      h.2.2.symm⟩
  · rintro ⟨i, j, ni, li, nj, lj, hij, h1, h2, hne, rfl, rfl⟩
    have hj := (List.getElem?_eq_some_iff.1 h2).1
    exact ⟨i, by omega, j, hj, by simp [hij, h1, h2, hne]⟩
#print axioms dupParams_exact

theorem dupIfs_exact (cs : List Exp) (r : Rep) :
    r ∈ dupIfs cs ↔
      ∃ i j ci cj, (i : Nat) < (j : Nat) ∧ cs[i]? = some ci ∧ cs[j]? = some cj ∧ compExp ci cj = true ∧
        r = { ty := 19, loc := expLoc cj } := by
  simp only [dupIfs, List.mem_flatMap, List.mem_range, List.mem_filterMap]
  constructor
  · rintro ⟨i, hi, j, hj, h⟩
    rw [List.getElem?_eq_getElem hi, List.getElem?_eq_getElem hj] at h
    simp only [Option.ite_none_right_eq_some, Option.some.injEq] at h
    exact ⟨i, j, _, _, h.1, List.getElem?_eq_getElem hi, List.getElem?_eq_getElem hj, h.2.1, h.2.2.symm⟩
  · rintro ⟨i, j, ci, cj, hij, h1, h2, hc, rfl⟩
    have hj := (List.getElem?_eq_some_iff.1 h2).1
    exact ⟨i, by omega, j, hj, by simp [hij, h1, h2, hc]⟩
#print axioms dupIfs_exact

/-- a repeated condition is a real repetition: the two conditions are the same expression up to
    locations (no false positive of type 19) -/
theorem dupIfs_sound (cs : List Exp) (r : Rep) (h : r ∈ dupIfs cs) :
    ∃ i j ci cj, (i : Nat) < (j : Nat) ∧ cs[i]? = some ci ∧ cs[j]? = some cj ∧ erase ci = erase cj := by
  obtain ⟨i, j, ci, cj, hij, h1, h2, hc, _⟩ := (dupIfs_exact cs r).mp h
  exact ⟨i, j, ci, cj, hij, h1, h2, compExp_sound ci cj hc⟩
#print axioms dupIfs_sound

theorem ty_r15 (op a b) : ∀ r ∈ r15 op a b, r.ty = 15 := fun _ h =>
  List.mem_singleton.1 (List.mem_ite_nil_right.1 h).2 ▸ rfl
theorem ty_r16 (op a b) : ∀ r ∈ r16 op a b, r.ty = 16 := fun _ h =>
  List.mem_singleton.1 (List.mem_ite_nil_right.1 h).2 ▸ rfl
theorem ty_r21 (op a b l) : ∀ r ∈ r21 op a b l, r.ty = 21 := fun _ h =>
  List.mem_singleton.1 (List.mem_ite_nil_right.1 h).2 ▸ rfl
theorem ty_r14 (op a b) : ∀ r ∈ r14 op a b, r.ty = 14 := fun _ h =>
  List.mem_singleton.1 (List.mem_ite_nil_right.1 h).2 ▸ rfl

theorem exists_binopRep_ty (op : TK) (a b : Exp) (l : Loc) (t : Nat) :
    (∃ r ∈ binopReps op a b l, r.ty = t) ↔
      ((op == .or && (isTrue a || isTrue b) && located a b) = true ∧ t = 15) ∨
      ((op == .and && (isFalse a || isFalse b) && located a b) = true ∧ t = 16) ∨
      (((op == .eq || op == .ne) && (isFloat a || isFloat b)) = true ∧ t = 21) ∨
      ((isCmp op && !containsHash (expName a) && !containsHash (expName b) && expName a == expName b &&
        sameOperand a b && located a b) = true ∧ t = 14) := by
  simp only [binopReps, r15, r16, r21, r14, List.mem_append, List.mem_ite_nil_right, List.mem_singleton, or_and_right,
    exists_or, and_assoc, exists_and_left, exists_eq_left, or_assoc, eq_comm (b := t)]

/-- `x or true` (type 15) is reported at a node iff the operator is `or`, an operand is the literal
    `true`, and both operands are located -/
theorem orTrue_exact (op : TK) (a b : Exp) (l : Loc) :
    (∃ r ∈ binopReps op a b l, r.ty = 15) ↔ (op = .or ∧ (isTrue a || isTrue b) = true ∧ located a b = true) := by
  simp [exists_binopRep_ty, and_assoc]
#print axioms orTrue_exact

theorem andFalse_exact (op : TK) (a b : Exp) (l : Loc) :
    (∃ r ∈ binopReps op a b l, r.ty = 16) ↔ (op = .and ∧ (isFalse a || isFalse b) = true ∧ located a b = true) := by
  simp [exists_binopRep_ty, and_assoc]
#print axioms andFalse_exact

theorem floatEq_exact (op : TK) (a b : Exp) (l : Loc) :
    (∃ r ∈ binopReps op a b l, r.ty = 21) ↔ ((op = .eq ∨ op = .ne) ∧ (isFloat a || isFloat b) = true) := by
  simp [exists_binopRep_ty]
#print axioms floatEq_exact

/-- every diagnostic of a binary node covers exactly the node (21) or the span of its operands -/
theorem binop_range (op : TK) (a b : Exp) (l : Loc) :
    ∀ r ∈ binopReps op a b l, r.loc = l ∨ r.loc = spanLoc a b := by
  intro r hr
  simp only [binopReps, r15, r16, r21, r14, List.mem_append, List.mem_ite_nil_right, List.mem_singleton] at hr
  rcases hr with ((⟨_, rfl⟩ | ⟨_, rfl⟩) | ⟨_, rfl⟩) | ⟨_, rfl⟩ <;> simp
#print axioms binop_range

theorem assign_arity_exact (vars exps : List Exp) (l : Loc) :
    (∃ r ∈ assignReps vars exps l, r.ty = 7) ↔
      (vars.length < exps.length ∨ (exps.length < vars.length ∧ exps.all isOneValue = true)) := by
  simp [mem_assignReps, or_and_right, exists_or, and_assoc]
#print axioms assign_arity_exact

theorem local_arity_exact (n : Nat) (exps : List Exp) (l : Loc) :
    (∃ r ∈ localReps n exps l, r.ty = 8) ↔
      (n < exps.length ∨ (exps.length < n ∧ 0 < exps.length ∧ exps.all isOneValue = true)) := by
  unfold localReps
  simp only [Bool.and_eq_true, decide_eq_true_eq, gt_iff_lt, and_assoc]
  -- each branch condition is now a disjunct of the right-hand side, or the negation of one
  split
  · simp [*]
  · split <;> simp [*, -List.all_eq_true]
#print axioms local_arity_exact


/-- the key strings of two keys are equal exactly when the keys are the same constant expression (CompExp: the same
    integer, string, bracketed name, boolean, float VALUE, or the same unary operator on such a key): the encodings
    ("#int" + digits, '"' + text, "!" + name, "#true", "#false", "#flt" + value, "#op" n ":" key) are injective
    and pairwise disjoint -/
theorem keyStr_same (k1 k2 : Exp) (p : Loc) (s1 s2 : Bytes) (l1 l2 : Loc)
    (h1 : keyStr k1 p = some (s1, l1)) (h2 : keyStr k2 p = some (s2, l2)) :
    s1 = s2 ↔ compExp k1 k2 = true := keyStr_eq_iff p k1 k2 s1 s2 l1 l2 h1 h2
#print axioms keyStr_same

/-- a key has a key string exactly when it is a constant key in the sense of the specification -/
theorem keyStr_defined_iff (k : Exp) (p : Loc) : (keyStr k p).isSome = PatSpec.litKey k := keyStr_isSome p k
#print axioms keyStr_defined_iff

theorem dupFrom_mem (parent : Loc) (r : Rep) : ∀ (ks : List Exp) (seen : List Bytes),
    r ∈ dupFrom parent ks seen ↔
      ∃ pre k post s l, ks = pre ++ k :: post ∧ keyStr k parent = some (s, l) ∧ r = { ty := 5, loc := l, tag := s } ∧
        (s ∈ seen ∨ ∃ k' ∈ pre, ∃ l', keyStr k' parent = some (s, l'))
  | [], seen => by simp [dupFrom]
  | k0 :: rest, seen => by
    -- the reported key is `k0` itself, or a key of `rest` for which `k0` counts as an earlier key
    simp only [exists_and_left]
    rw [Lists.exists_split_cons (P := fun pre k _ => ∃ s l, keyStr k parent = some (s, l) ∧
      r = { ty := 5, loc := l, tag := s } ∧ (s ∈ seen ∨ ∃ k' ∈ pre, ∃ l', keyStr k' parent = some (s, l')))]
    cases hk : keyStr k0 parent with
    | none =>
      rw [dupFrom, hk]
      simp only [dupFrom_mem parent r rest seen, exists_and_left, hk, reduceCtorEq, false_and, exists_const,
        List.mem_cons, exists_eq_or_imp, false_or]
    | some v =>
      obtain ⟨s0, l0⟩ := v
      -- `k0` may be taken to join `seen` in any case
      simp only [dupFrom_cons_some parent hk, List.mem_append, List.mem_ite_nil_right, List.mem_singleton,
        dupFrom_mem parent r rest (s0 :: seen)]
      simp only [List.mem_cons, exists_and_left, exists_and_right, Option.some.injEq, Prod.mk.injEq,
        List.not_mem_nil, false_and, exists_const, or_false, exists_eq_or_imp, hk, exists_eq', and_true]
      -- what is left is the order of the disjuncts, and `s0 = s` against `s = s0`
      refine or_congr ⟨fun ⟨h1, h2⟩ => ⟨s0, l0, ⟨rfl, rfl⟩, h2, h1⟩, fun ⟨_, _, ⟨rfl, rfl⟩, h2, h1⟩ => ⟨h1, h2⟩⟩ ?_
      simp only [eq_comm (a := s0), or_assoc, or_left_comm]

/-- type 5, for every constructor: a key is reported exactly when an earlier key of the same constructor
    has the same key string; the report is at the key (at the constructor for an integer key) -/
theorem dupKeys_exact (keys : List Exp) (parent : Loc) (r : Rep) :
    r ∈ dupKeys keys parent ↔
      ∃ pre k post s l, keys = pre ++ k :: post ∧ keyStr k parent = some (s, l) ∧ r = { ty := 5, loc := l, tag := s } ∧
        ∃ k' ∈ pre, ∃ l', keyStr k' parent = some (s, l') := by
  simp only [dupKeys_eq, dupFrom_mem, List.not_mem_nil, false_or]
#print axioms dupKeys_exact

theorem keyStr_of_litKey {k : Exp} (h : PatSpec.litKey k = true) (p : Loc) : ∃ s l, keyStr k p = some (s, l) := by
  obtain ⟨⟨s, l⟩, hk⟩ := Option.isSome_iff_exists.1 ((keyStr_defined_iff k p).trans h)
  exact ⟨s, l, hk⟩

theorem litKey_of_keyStr {k : Exp} {p : Loc} {s : Bytes} {l : Loc} (h : keyStr k p = some (s, l)) :
    PatSpec.litKey k = true := by
  rw [← keyStr_defined_iff k p, h]; rfl

/-- with `keyStr_same`: the earlier key is the same constant key -/
theorem dupKeys_sameKey (keys : List Exp) (parent : Loc) (r : Rep) (h : r ∈ dupKeys keys parent) :
    ∃ pre k post, keys = pre ++ k :: post ∧ PatSpec.litKey k = true ∧ ∃ k' ∈ pre, compExp k' k = true := by
  obtain ⟨pre, k, post, s, l, hs, hk, _, k', hk', l', hl'⟩ := (dupKeys_exact keys parent r).1 h
  exact ⟨pre, k, post, hs, litKey_of_keyStr hk, k', hk', (keyStr_same k' k parent s s l' l hl' hk).1 rfl⟩
#print axioms dupKeys_sameKey

/-- the specification's reports, by the place of the reported key in the constructor -/
theorem mem_specDupKeys (keys : List Exp) (parent : Loc) (r : Rep) :
    r ∈ PatSpec.specDupKeys keys parent ↔
      ∃ pre k post, keys = pre ++ k :: post ∧ PatSpec.litKey k = true ∧ (∃ k' ∈ pre, compExp k' k = true) ∧
        r = { ty := 5, loc := PatSpec.keyLoc k parent, tag := ((keyStr k parent).map (·.1)).getD [] } := by
  simp only [PatSpec.specDupKeys, List.mem_filterMap, List.mem_range]
  constructor
  · rintro ⟨j, hj, h⟩
    rw [List.getElem?_eq_getElem hj] at h
    simp only [Option.ite_none_right_eq_some, Option.some.injEq, Bool.and_eq_true, List.any_eq_true] at h
    exact ⟨keys.take j, keys[j], keys.drop (j + 1), by rw [← List.drop_eq_getElem_cons hj, List.take_append_drop],
      h.1.1, h.1.2, by rw [← h.2]; cases keyStr keys[j] parent <;> rfl⟩
  · rintro ⟨pre, k, post, rfl, hlit, hany, rfl⟩
    refine ⟨pre.length, by simp, ?_⟩
    simp only [List.getElem?_append_right (Nat.le_refl _), Nat.sub_self, List.getElem?_cons_zero, List.take_left', hlit,
      List.any_eq_true.2 hany, Bool.and_self, if_true]
    cases keyStr k parent <;> rfl

/-- type 5 is EXACTLY what the specification Spec/Pat.lean asks for (since the repair of finding K2, which added
    boolean, float and unary-operator keys): a constant key is reported iff an earlier key of the same constructor
    is the same constant expression -/
theorem dupKeys_iff_spec (keys : List Exp) (parent : Loc) (r : Rep) :
    r ∈ dupKeys keys parent ↔ r ∈ PatSpec.specDupKeys keys parent := by
  rw [dupKeys_exact, mem_specDupKeys]
  constructor
  · rintro ⟨pre, k, post, s, l, hs, hk, rfl, k', hk', l', hl'⟩
    exact ⟨pre, k, post, hs, litKey_of_keyStr hk, ⟨k', hk', (keyStr_same k' k parent s s l' l hl' hk).1 rfl⟩,
      by rw [keyStr_loc parent k s l hk, hk]; rfl⟩
  · rintro ⟨pre, k, post, hs, hlit, ⟨k', hk', hc⟩, rfl⟩
    -- both keys are constant keys, and `CompExp` equates them: they have the same key string
    obtain ⟨s, l, hk⟩ := keyStr_of_litKey hlit parent
    obtain ⟨s', l', hk2⟩ := keyStr_of_litKey (compExp_litKey k' k hc hlit) parent
    have hss : s' = s := (keyStr_same k' k parent s' s l' l hk2 hk).2 hc
    exact ⟨pre, k, post, s, l, hs, hk, by rw [hk, keyStr_loc parent k s l hk]; rfl, k', hk', l', hss ▸ hk2⟩
#print axioms dupKeys_iff_spec

/-- the former false positives: a string key never equals a name key or an integer key, whatever its
    text (`{ ["!x"] = 1, [x] = 2 }`, `{ ["#int1"] = 1, [1] = 2 }`), and the empty string key is a key -/
theorem string_key_is_not_name_key (s n : Bytes) (l1 l2 p : Loc) :
    dupKeys [.str s l1, .name n l2] p = [] := rfl
theorem string_key_is_not_int_key (s : Bytes) (v : Int) (l1 l2 p : Loc) :
    dupKeys [.str s l1, .int v l2] p = [] := rfl
theorem empty_string_key_checked (l1 l2 p : Loc) :
    dupKeys [.str [] l1, .str [] l2] p = [{ ty := 5, loc := l2, tag := [34] }] := rfl
#print axioms string_key_is_not_name_key
#print axioms string_key_is_not_int_key
#print axioms empty_string_key_checked

/-- the former finding C20-K2, repaired: duplicate boolean, float (equal VALUE, whatever the spelling) and
    negated keys are reported -/
theorem K2_repaired (l1 l2 p : Loc) :
    dupKeys [.tru l1, .tru l2] p = [{ ty := 5, loc := l2, tag := trueKey }] ∧
    dupKeys [.tru l1, .fls l2] p = [] := ⟨rfl, rfl⟩
/-- 1.5 and 15e-1 are one key (the value decides, not the spelling), -1 twice is one key, 1 and -1 are two -/
theorem K2_repaired_values (l1 l2 l3 l4 p : Loc) :
    dupKeys [.flt [49, 46, 53] l1, .flt [49, 53, 101, 45, 49] l2] p =
      [{ ty := 5, loc := l2, tag := fltKeyPrefix ++ fltKey [49, 53, 101, 45, 49] }] ∧
    (dupKeys [.unop .minus (.int 1 l1) l2, .unop .minus (.int 1 l3) l4] p).map (·.loc) = [l4] ∧
    dupKeys [.int 1 l1, .unop .minus (.int 1 l3) l4] p = [] := by
  have h : fltKey [49, 46, 53] = fltKey [49, 53, 101, 45, 49] := (fltKey_eq_iff _ _).2 (by decide)
  refine ⟨by simp [dupKeys, dupKeys.go, keyStr, h], by simp [dupKeys, dupKeys.go, keyStr],
    by simp [dupKeys, dupKeys.go, keyStr, intKeyPrefix, opKeyPrefix]⟩
#print axioms K2_repaired_values
#print axioms K2_repaired

/-- an access path: names and string keys (no '#' in them), table accesses, redundant parentheses -/
def pathLike : Exp → Bool
  | .name n _ => !n.contains 35
  | .str s _ => !s.contains 35
  | .parens e _ => pathLike e
  | .index p k _ => pathLike p && pathLike k
  | _ => false

/-- an access path without its redundant parentheses -/
def strip : Exp → Exp
  | .parens e _ => strip e
  | .index p k l => .index (strip p) (strip k) l
  | e => e

/-- the name filter of the same-operand check lets exactly the access paths through -/
theorem hash_iff : (e : Exp) → (containsHash (expName e) = false ↔ pathLike e = true)
  | .name n _ => by simp [containsHash, expName, pathLike]
  | .str s _ => by simp [containsHash, expName, pathLike]
  | .parens e _ => hash_iff e
  | .index p k _ => by
    -- the name is `p.k`: it is free of '#' iff both parts are
    rw [pathLike, Bool.and_eq_true, ← hash_iff p, ← hash_iff k]
    simp [containsHash, expName]
  | .nil _ | .tru _ | .fls _ | .vararg _ | .int _ _ | .flt _ _ | .unop _ _ _ | .binop _ _ _ _
  | .table _ _ _ | .func _ | .call _ _ _ _ | .bad _ | .noKey => by
    simp [containsHash, expName, pathLike, hashTag]
#print axioms hash_iff

theorem expName_strip : (e : Exp) → expName (strip e) = expName e := fun e => by
  fun_induction strip e with
  | case1 e l ih => exact ih
  | case2 p k l ih1 ih2 => simp only [expName, ih1, ih2]
  | case3 e h1 h2 => rfl

theorem expName_erase : (e : Exp) → expName (erase e) = expName e
  | .parens e _ => expName_erase e
  | .index p k _ => by simp only [erase, expName, expName_erase p, expName_erase k]
  | .nil _ | .tru _ | .fls _ | .vararg _ | .int _ _ | .flt _ _ | .unop _ _ _ | .binop _ _ _ _
  | .table _ _ _ | .func _ | .call _ _ _ _ | .bad _ | .noKey | .name _ _ | .str _ _ => rfl

/-- an operand that is not in parentheses is its own `strip`, unless it is a table access -/
theorem strip_top {a : Exp} (ha : ∀ e l, a ≠ .parens e l) : strip a = a ∨ ∃ p k l, a = .index p k l := by
  cases a with
  | parens e l => exact absurd rfl (ha e l)
  | index p k l => exact .inr ⟨p, k, l, rfl⟩
  | _ => exact .inl rfl

/-- `CompExp` equates a table access only with a table access -/
theorem compExp_index_ne {p k : Exp} {l : Loc} {b : Exp} (hb : ∀ p' k' l', b ≠ .index p' k' l') :
    compExp (.index p k l) b = false ∧ compExp b (.index p k l) = false := by
  cases b with
  | index p' k' l' => exact absurd rfl (hb p' k' l')
  | _ => exact ⟨rfl, rfl⟩

/-- the confirmation step is `CompExp` on the operands without their redundant parentheses -/
theorem sameOperand_eq (a b : Exp) : sameOperand a b = compExp (strip a) (strip b) := by
  fun_induction sameOperand a b with
  | case1 a l b ih => exact ih
  | case2 a b l hn ih => exact ih
  | case3 p1 k1 l1 p2 k2 l2 ih1 ih2 => rw [ih1, ih2]; rfl
  | case4 a b h1 h2 h3 =>
    -- neither operand is in parentheses, so each is its own `strip` or a table access; they are not both table
    -- accesses, and `CompExp` tells a table access from anything else, stripped or not
    rcases strip_top h1 with ha | ⟨p, k, l, rfl⟩ <;> rcases strip_top h2 with hb | ⟨p', k', l', rfl⟩
    · rw [ha, hb]
    · have ha' : ∀ p k l, a ≠ .index p k l := fun _ _ _ e => h3 _ _ _ _ _ _ e rfl
      rw [ha, strip, (compExp_index_ne ha').2, (compExp_index_ne ha').2]
    · have hb' : ∀ p k l, b ≠ .index p k l := fun _ _ _ e => h3 _ _ _ _ _ _ rfl e
      rw [hb, strip, (compExp_index_ne hb').1, (compExp_index_ne hb').1]
    · exact (h3 _ _ _ _ _ _ rfl rfl).elim

/-- the confirmation step only accepts operands that are the same expression up to source locations and
    redundant parentheses -/
theorem sameOperand_sound (a b : Exp) : sameOperand a b = true → erase (strip a) = erase (strip b) :=
  fun h => compExp_sound _ _ (sameOperand_eq a b ▸ h)
#print axioms sameOperand_sound

theorem pathLike_strip (e : Exp) : pathLike (strip e) = pathLike e := by
  rw [Bool.eq_iff_iff, ← hash_iff, ← hash_iff, expName_strip]

/-- on access paths `CompExp` is complete: it equates what is the same up to locations -/
theorem compExp_of_pathLike : (x y : Exp) → pathLike x = true → pathLike y = true → erase x = erase y →
    compExp x y = true
  | .name _ _, y, _, _, h | .str _ _, y, _, _, h => by
    -- `h` leaves `y` only the same constructor with the same text
    cases y <;> cases h <;> exact beq_self_eq_true _
  | .parens x _, y, hx, hy, h => by
    cases y with
    | parens y _ => exact compExp_of_pathLike x y hx hy (Exp.parens.inj h).1
    | _ => cases h
  | .index p k _, y, hx, hy, h => by
    cases y with
    | index p' k' _ =>
      simp only [pathLike, Bool.and_eq_true] at hx hy
      have h := Exp.index.inj h
      simp [compExp, compExp_of_pathLike p p' hx.1 hy.1 h.1, compExp_of_pathLike k k' hx.2 hy.2 h.2.1]
    | _ => cases h
  | .nil _, _, hx, _, _ | .tru _, _, hx, _, _ | .fls _, _, hx, _, _ | .vararg _, _, hx, _, _ | .int _ _, _, hx, _, _
  | .flt _ _, _, hx, _, _ | .unop _ _ _, _, hx, _, _ | .binop _ _ _ _, _, hx, _, _ | .table _ _ _, _, hx, _, _
  | .func _, _, hx, _, _ | .call _ _ _ _, _, hx, _, _ | .bad _, _, hx, _, _ | .noKey, _, hx, _, _ => by cases hx

/-- … and it accepts every pair of access paths that are the same up to locations and parentheses -/
theorem sameOperand_complete (a b : Exp) : pathLike a = true → pathLike b = true →
    erase (strip a) = erase (strip b) → sameOperand a b = true := fun ha hb h =>
  sameOperand_eq a b ▸ compExp_of_pathLike _ _ ((pathLike_strip a).trans ha) ((pathLike_strip b).trans hb) h
#print axioms sameOperand_complete

/-- type 14, for every binary node: it is reported exactly when the operator is a comparison / and / or,
    both operands are access paths, and they are the same path up to source locations and redundant
    parentheses; the report spans both operands -/
theorem sameOperands_exact (op : TK) (a b : Exp) (r : Rep) :
    r ∈ r14 op a b ↔
      r = { ty := 14, loc := spanLoc a b } ∧ isCmp op = true ∧ located a b = true ∧
        pathLike a = true ∧ pathLike b = true ∧ erase (strip a) = erase (strip b) := by
  rw [r14, List.mem_ite_nil_right, List.mem_singleton]
  simp only [Bool.and_eq_true, Bool.not_eq_true', beq_iff_eq]
  constructor
  · rintro ⟨⟨⟨⟨⟨⟨h1, h2⟩, h3⟩, _⟩, h5⟩, h6⟩, hr⟩
    exact ⟨hr, h1, h6, (hash_iff a).1 h2, (hash_iff b).1 h3, sameOperand_sound a b h5⟩
  · rintro ⟨hr, h1, h6, ha, hb, he⟩
    have hn : expName a = expName b := by
      rw [← expName_strip a, ← expName_erase (strip a), he, expName_erase, expName_strip]
    exact ⟨⟨⟨⟨⟨⟨h1, (hash_iff a).2 ha⟩, (hash_iff b).2 hb⟩, hn⟩, sameOperand_complete a b ha hb he⟩, h6⟩, hr⟩
#print axioms sameOperands_exact

theorem r14_eq_nil {op : TK} {a b : Exp}
    (h : ¬ (pathLike a = true ∧ pathLike b = true ∧ erase (strip a) = erase (strip b))) : r14 op a b = [] :=
  List.eq_nil_iff_forall_not_mem.2 fun r hr => h ((sameOperands_exact op a b r).1 hr).2.2.2

/-- the former false positives: a name and a string literal are never the same operand, whatever the
    text of the string (`x == "!x"`); a dotted string key is not a chain of keys (`t["b.c"] == t.b.c`) -/
theorem name_vs_string_not_same (op : TK) (n s : Bytes) (l1 l2 : Loc) :
    r14 op (.name n l1) (.str s l2) = [] :=
  r14_eq_nil (by simp [strip, erase])
theorem dotted_key_not_chain (op : TK) (t s b c : Bytes) (l1 l2 l3 l4 l5 l6 l7 l8 : Loc) :
    r14 op (.index (.name t l1) (.str s l2) l3) (.index (.index (.name t l4) (.str b l5) l6) (.str c l7) l8) = [] :=
  r14_eq_nil (by simp [strip, erase])
#print axioms name_vs_string_not_same
#print axioms dotted_key_not_chain

/-- finding C20-K1 (model = implementation ≠ property): identical operands that are not access paths
    (`1 == 1`, `t[1] == t[1]`, `f() == f()`, `x + 1 == x + 1`) are not reported -/
theorem K1_witness (op : TK) (v : Int) (l1 l2 : Loc) : r14 op (.int v l1) (.int v l2) = [] :=
  r14_eq_nil (by simp [pathLike])
#print axioms K1_witness

/-- an access path has no parentheses but the redundant ones -/
theorem stripAll_of_pathLike : (e : Exp) → pathLike e = true → PatSpec.stripAll e = strip e
  | .parens e _, h => by rw [PatSpec.stripAll, strip]; exact stripAll_of_pathLike e h
  | .index p k _, h => by
    simp only [pathLike, Bool.and_eq_true] at h
    rw [PatSpec.stripAll, strip, stripAll_of_pathLike p h.1, stripAll_of_pathLike k h.2]
  | .name _ _, _ | .str _ _, _ => rfl
  | .nil _, h | .tru _, h | .fls _, h | .vararg _, h | .int _ _, h | .flt _ _, h | .unop _ _ _, h | .binop _ _ _ _, h
  | .table _ _ _, h | .func _, h | .call _ _ _ _, h | .bad _, h | .noKey, h => by cases h

theorem sameOperand_spec (a b : Exp) : pathLike a = true → pathLike b = true → sameOperand a b = true →
    compExp (PatSpec.stripAll a) (PatSpec.stripAll b) = true := fun ha hb h => by
  rw [stripAll_of_pathLike a ha, stripAll_of_pathLike b hb, ← sameOperand_eq]
  exact h

/-- every type-14 report of the model is one the specification asks for -/
theorem model14_within_spec (op : TK) (a b : Exp) (r : Rep) (h : r ∈ r14 op a b) : r ∈ PatSpec.spec14 op a b := by
  obtain ⟨hr, h1, h6, ha, hb, he⟩ := (sameOperands_exact op a b r).1 h
  have hs := sameOperand_spec a b ha hb (sameOperand_complete a b ha hb he)
  simp [PatSpec.spec14, h1, h6, hs, hr]
#print axioms model14_within_spec

/-- the `true` the parser stores for a plain else branch is not compared: the repeated-condition reports of
    `if c1 … elseif cn … else … end` are those of c1 … cn -/
theorem else_not_compared (cs : List Exp) (e : Exp) (bs : List Block) (l : Loc) (r : Rep) (h19 : r.ty = 19) :
    r ∈ pStat (.if_ (cs ++ [e]) bs true l) ↔ (r ∈ dupIfs cs ∨ r ∈ (cs ++ [e]).flatMap pExp ∨ r ∈ bs.flatMap pBlock) := by
  simp [pStat, or_assoc]
#print axioms else_not_compared

/-- `if true then … else … end` reports nothing (it used to report the else keyword) -/
theorem if_true_else_clean (l1 l2 : Loc) :
    dupIfs ([Exp.tru l1, Exp.tru l2].dropLast) = [] := rfl
#print axioms if_true_else_clean

end LuaHelper.C20
