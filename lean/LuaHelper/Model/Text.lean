/-
M-text: executable model of
  luahelper-lsp/langserver/lspcommon/file_cache.go  offsetForStartAndEnd, ApplyContentChanges
  luahelper-lsp/langserver/lspcommon/util.go        OffsetForPosition
  luahelper-lsp/langserver/textdocument_file_request.go  (cache effect of open/change/save/close)
written branch by branch after the Go code (after the repair that made the position mapping follow LSP).  Core Lean only.
-/
namespace LuaHelper.Text

abbrev Bytes := List UInt8

structure Pos where
  line : Nat
  ch   : Nat
deriving Repr, DecidableEq, Inhabited

/-- Go: `getCharBytes` — number of leading one bits of the byte (0 … 8). -/
def leadOnes (b : UInt8) : Nat :=
  if b < 0x80 then 0 else if b < 0xC0 then 1 else if b < 0xE0 then 2 else if b < 0xF0 then 3
  else if b < 0xF8 then 4 else if b < 0xFC then 5 else if b < 0xFE then 6 else if b < 0xFF then 7 else 8

/-- bytes consumed by one loop iteration that starts on byte `c` -/
def stepLen (c : UInt8) : Nat := if c > 127 then leadOnes c else 1

/-- the test `ch > 127` of the walk and the first test of `leadOnes` single out the same bytes -/
theorem gt_127_iff {c : UInt8} : c > 127 ↔ ¬ c < 0x80 := by
  simp only [gt_iff_lt, UInt8.lt_iff_toNat_lt, UInt8.toNat_ofNat]; omega

theorem stepLen_pos (c : UInt8) : 0 < stepLen c := by
  unfold stepLen
  split
  · next h =>
    -- past its first test every branch of `leadOnes` is a positive numeral (`split` on the whole chain is slow)
    rw [leadOnes, if_neg (gt_127_iff.1 h)]
    simp only [apply_ite (0 < ·), Nat.reduceLT, ite_self]
  · decide

inductive OffRes where
  | ok (s e : Nat)
  | err
deriving Repr, DecidableEq, Inhabited

/-- first loop of `OffsetForPosition`: skip `l` lines (a line ends with LF, CR LF or CR); `none` = the
    document has fewer lines.  Returns the rest of the document and the bytes consumed. -/
def skipLines : Bytes → Nat → Nat → Option (Bytes × Nat)
  | r, 0, off => some (r, off)
  | [], _ + 1, _ => none
  | c :: r, l + 1, off =>
    if c = 10 then skipLines r l (off + 1)
    else if c = 13 then
      if r.head? = some 10 then skipLines r.tail l (off + 2) else skipLines r l (off + 1)
    else skipLines r (l + 1) (off + 1)
termination_by r => r.length
decreasing_by all_goals (first | (simp [List.length_tail]; done) | (simp [List.length_tail]; omega) | omega)

/-- UTF-16 code units of the character that starts with byte `c` -/
def unitsOf (c : UInt8) : Nat := if c > 127 ∧ leadOnes c = 4 then 2 else 1

/-- second loop: walk `rem` UTF-16 units along the line; stops at a line end, at the end of the document
    and before a character that needs more units than are left (inside a surrogate pair) -/
def walk : Bytes → Nat → Nat → Nat
  | [], _, off => off
  | _ :: _, 0, off => off
  | c :: tl, rem + 1, off =>
    if c = 10 ∨ c = 13 then off
    else if rem + 1 < unitsOf c then off
    else walk (tl.drop (stepLen c - 1)) (rem + 1 - unitsOf c) (off + stepLen c)
termination_by r => r.length
decreasing_by all_goals (first | (simp [List.length_drop]; done) | (simp [List.length_drop]; omega) | omega)

/-- `OffsetForPosition` (lspcommon/util.go) -/
def offsetForPosition (doc : Bytes) (p : Pos) : Option Nat :=
  match skipLines doc p.line 0 with
  | none => none
  | some (r, off) => some (min (walk r p.ch off) doc.length)

/-- `offsetForStartAndEnd` (file_cache.go): both ends through `OffsetForPosition`, end before start is an error -/
def offsetForStartAndEnd (doc : Bytes) (sp ep : Pos) : OffRes :=
  match offsetForPosition doc sp, offsetForPosition doc ep with
  | some s, some e => if e < s then .err else .ok s e
  | _, _ => .err

/-- One content change.  `range = none` ⇒ full replacement (the Go test `Range == nil &&
    RangeLength == 0`; conformant clients never send a rangeLength without a range). -/
structure Change where
  range : Option (Pos × Pos)
  text  : Bytes
deriving Repr, DecidableEq, Inhabited

/-- `ApplyContentChanges`: `none` = the Go function returned an error. -/
def applyChanges (doc : Bytes) : List Change → Option Bytes
  | [] => some doc
  | ch :: more =>
    match ch.range with
    | none => applyChanges ch.text more
    | some (sp, ep) =>
      match offsetForStartAndEnd doc sp ep with
      | .err => none
      | .ok s e =>
        if e > doc.length ∨ e < s then none
        else applyChanges (doc.take s ++ ch.text ++ doc.drop e) more

/-! ### document cache under the four notifications -/

inductive Op where
  | opn (uri : Nat) (text : Bytes)
  | chg (uri : Nat) (changes : List Change)
  | sav (uri : Nat) (text : Bytes)
  | cls (uri : Nat)
deriving Repr, DecidableEq, Inhabited

/-- cache: association list uri ↦ bytes (latest binding first) -/
abbrev Cache := List (Nat × Bytes)

def Cache.get (c : Cache) (u : Nat) : Option Bytes := (c.find? (·.1 == u)).map (·.2)
def Cache.set (c : Cache) (u : Nat) (b : Bytes) : Cache := (u, b) :: c.filter (·.1 != u)
def Cache.del (c : Cache) (u : Nat) : Cache := c.filter (·.1 != u)

/-- cache effect of the handlers in textdocument_file_request.go -/
def step (c : Cache) : Op → Cache
  | .opn u t => c.set u t
  | .chg u chs =>
    match c.get u with
    | none => c                                -- "ApplyContentChanges get strFile error": ignored
    | some doc =>
      match applyChanges doc chs with
      | none => c                              -- error is logged, old text kept
      | some d => c.set u d
  | .sav u t => c.set u t
  | .cls u => c.del u

def run (ops : List Op) : Cache := ops.foldl step []

end LuaHelper.Text
